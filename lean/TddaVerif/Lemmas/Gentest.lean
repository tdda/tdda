/-
C11 / C12, gentest: the test names handed out are new each time (`natText` is core's `Nat.toDigits 10`, hence injective, so
the renaming loop runs out of taken names before it runs out of fuel); the plan of a script is the fixed tests followed by
one test per file (`plan_eq`); the date test is the calendar (`possibleDate_iff`).
-/
import TddaVerif.Model.Gentest
import TddaVerif.Lemmas.ListAux

namespace TddaVerif.Props.C11.Lemmas
open TddaVerif.Gentest

theorem digitsAux_eq (fuel n : Nat) (acc : List Char) :
    digitsAux fuel n acc = Nat.toDigitsCore 10 fuel n acc := by
  induction fuel generalizing n acc with
  | zero => rfl
  | succ fuel ih =>
    rw [digitsAux, Nat.toDigitsCore, ListAux.ofNat_digit (n % 10) (Nat.mod_lt _ (by decide))]
    simp only [ih]

theorem natText_eq (n : Nat) : natText n = Nat.toDigits 10 n := digitsAux_eq _ _ _

/-- core reads the digits back: `Nat.ofDigitChars_ten_toDigits` -/
theorem natText_injective {a b : Nat} (h : natText a = natText b) : a = b := by
  simpa [natText_eq] using congrArg (Nat.ofDigitChars 10 · 0) h

theorem bump_mem_all {base : Name} {taken : List Name} {fuel q : Nat}
    (h : (bump base taken fuel q).1 ∈ taken) (i : Nat) (hi : i ≤ fuel) : base ++ natText (q + 1 + i) ∈ taken := by
  induction fuel generalizing q i with
  | zero =>
    obtain rfl : i = 0 := by omega
    exact h
  | succ fuel ih =>
    rw [bump] at h
    split at h
    · next hc =>
      cases i with
      | zero => simpa using hc
      | succ i => rw [← Nat.add_assoc, Nat.add_right_comm]; exact ih h i (by omega)
    · next hc => exact absurd h (by simpa using hc)

theorem bump_fresh {base : Name} {taken : List Name} {q : Nat} :
    (bump base taken (taken.length + 1) q).1 ∉ taken := by
  intro h
  have hall := bump_mem_all h
  have hnd : ((List.range (taken.length + 2)).map fun i => base ++ natText (q + 1 + i)).Nodup :=
    List.Pairwise.map _ (fun i j hij e => hij (by
      have := natText_injective (List.append_cancel_left e); omega)) List.nodup_range
  have := hnd.length_le_of_subset fun x hx => by
    obtain ⟨i, hi, rfl⟩ := List.mem_map.mp hx
    exact hall i (by have := List.mem_range.mp hi; omega)
  simp at this
  omega

theorem testName_fresh (alnum : Char → Bool) (st : NameState) (b : Name) :
    (testName alnum st b).1 ∉ st.taken ∧ (testName alnum st b).2.taken = (testName alnum st b).1 :: st.taken := by
  unfold testName
  simp only
  split
  · exact ⟨bump_fresh, rfl⟩
  · rename_i hc
    exact ⟨by simpa using hc, rfl⟩

theorem testNames_nodup (alnum : Char → Bool) (st : NameState) (bs : List Name) :
    (testNames alnum st bs).Nodup ∧ ∀ n ∈ testNames alnum st bs, n ∉ st.taken := by
  induction bs generalizing st with
  | nil => simp [testNames]
  | cons b bs ih =>
    obtain ⟨hf, ht⟩ := testName_fresh alnum st b
    obtain ⟨hnd, hnot⟩ := ih (testName alnum st b).2
    rw [ht] at hnot
    simp only [testNames, List.nodup_cons, List.mem_cons]
    refine ⟨⟨fun hm => hnot _ hm List.mem_cons_self, hnd⟩, ?_⟩
    rintro n (rfl | hn)
    · exact hf
    · exact fun hmem => hnot n hn (List.mem_cons_of_mem _ hmem)

theorem testNames_length (alnum : Char → Bool) (st : NameState) (bs : List Name) :
    (testNames alnum st bs).length = bs.length := by
  induction bs generalizing st with
  | nil => rfl
  | cons b bs ih => simp [testNames, ih]

/-- the test written for one reference file (the function zipped in `plan`) -/
def fileTest (f : Name × Bool) (n : Name) : TestDef :=
  { name := n, kind := some (if f.2 then Kind.textFile else Kind.binaryFile), subject := f.1 }

/-- the tests every script has and the stream tests asked for -/
def fixedTests (so se : Bool) : List TestDef :=
  [{ name := "no_exception".toList, kind := none, subject := [] },
   { name := "exit_code".toList, kind := none, subject := [] }] ++
  (if so then [{ name := "stdout".toList, kind := some .string, subject := "stdout".toList }] else []) ++
  (if se then [{ name := "stderr".toList, kind := some .string, subject := "stderr".toList }] else [])

theorem plan_eq (alnum : Char → Bool) (so se : Bool) (files : List (Name × Bool)) :
    plan alnum so se files =
      fixedTests so se ++ List.zipWith fileTest files (testNames alnum {} (files.map (·.1))) := rfl

theorem fileTests_names {files : List (Name × Bool)} {names : List Name} (h : names.length ≤ files.length) :
    (List.zipWith fileTest files names).map (·.name) = names := by
  rw [List.map_zipWith]
  exact (List.map_uncurry_zip_eq_zipWith (f := fun _ n => n)).symm.trans (List.map_snd_zip h)

theorem fileTests_files {files : List (Name × Bool)} {names : List Name} (h : files.length ≤ names.length) :
    (List.zipWith fileTest files names).map (fun t => (t.subject, t.kind == some .textFile)) = files := by
  rw [List.map_zipWith]
  refine .trans ?_ (List.map_fst_zip h)
  rw [← List.map_uncurry_zip_eq_zipWith]
  exact List.map_congr_left fun ⟨⟨_, b⟩, _⟩ _ => by cases b <;> rfl

theorem kind_of_mem_fileTests {files : List (Name × Bool)} {names : List Name} {t : TestDef}
    (h : t ∈ List.zipWith fileTest files names) : t.kind = some .textFile ∨ t.kind = some .binaryFile := by
  rw [← List.map_uncurry_zip_eq_zipWith] at h
  obtain ⟨⟨⟨_, b⟩, _⟩, -, rfl⟩ := List.mem_map.mp h
  cases b <;> simp [fileTest, Function.uncurry]

theorem plan_names_nodup (alnum : Char → Bool) (so se : Bool) (files : List (Name × Bool)) :
    ((plan alnum so se files).map (·.name)).Nodup := by
  obtain ⟨hnd, hnot⟩ := testNames_nodup alnum {} (files.map (·.1))
  -- the fixed names are among the reserved ones, which are taken from the start
  have hsub : ((fixedTests so se).map (·.name)).Sublist reserved := by
    simp only [fixedTests, List.map_append, apply_ite (List.map _), List.map_cons, List.map_nil]
    exact ((List.Sublist.refl _).append (ListAux.ite_sublist (.refl [_]) (List.nil_sublist _))).append
      (ListAux.ite_sublist (.refl [_]) (List.nil_sublist _))
  have hres : reserved.Nodup := by unfold reserved; simp only [String.reduceToList]; decide
  rw [plan_eq, List.map_append, fileTests_names (by simp [testNames_length])]
  exact List.nodup_append.mpr ⟨hsub.nodup hres, hnd, fun a ha b hb e => hnot b hb (e ▸ hsub.subset ha)⟩

theorem plan_length (alnum : Char → Bool) (so se : Bool) (files : List (Name × Bool)) :
    (plan alnum so se files).length = files.length + (if so then 1 else 0) + (if se then 1 else 0) + 2 := by
  have : (fixedTests so se).length = 2 + (if so then 1 else 0) + (if se then 1 else 0) := by
    cases so <;> cases se <;> rfl
  simp only [plan_eq, List.length_append, List.length_zipWith, testNames_length, List.length_map, this]
  omega

theorem fileTests_filter_eq_nil {files : List (Name × Bool)} {names : List Name} {k : Option Kind}
    (h1 : k ≠ some .textFile) (h2 : k ≠ some .binaryFile) :
    (List.zipWith fileTest files names).filter (fun t => t.kind == k) = [] :=
  List.filter_eq_nil_iff.mpr fun t ht => by
    rcases kind_of_mem_fileTests ht with h | h <;> simp [h, Ne.symm h1, Ne.symm h2]

theorem fileTests_filter_file {files : List (Name × Bool)} {names : List Name} :
    (List.zipWith fileTest files names).filter (fun t => t.kind == some .textFile || t.kind == some .binaryFile)
      = List.zipWith fileTest files names :=
  List.filter_eq_self.mpr fun t ht => by
    rcases kind_of_mem_fileTests ht with h | h <;> simp [h]

theorem plan_files (alnum : Char → Bool) (so se : Bool) (files : List (Name × Bool)) :
    ((plan alnum so se files).filter (fun t => t.kind == some .textFile || t.kind == some .binaryFile)).map
        (fun t => (t.subject, t.kind == some .textFile)) = files := by
  rw [plan_eq, List.filter_append, List.map_append, fileTests_filter_file,
    fileTests_files (by simp [testNames_length])]
  cases so <;> cases se <;> rfl

theorem plan_streams (alnum : Char → Bool) (so se : Bool) (files : List (Name × Bool)) :
    (((plan alnum so se files).filter (fun t => t.kind == some .string)).map (·.subject)
      = (if so then ["stdout".toList] else []) ++ (if se then ["stderr".toList] else [])) ∧
    ((plan alnum so se files).filter (fun t => t.kind == none)).map (·.name) = ["no_exception".toList, "exit_code".toList] := by
  rw [plan_eq, List.filter_append, List.filter_append, fileTests_filter_eq_nil (by decide) (by decide),
    fileTests_filter_eq_nil (by decide) (by decide)]
  cases so <;> cases se <;> exact ⟨rfl, rfl⟩

/-- the calendar, stated independently: month lengths by name -/
def RealDate (y m d : Nat) : Prop :=
  1 ≤ y ∧ y ≤ 9999 ∧ 1 ≤ d ∧
  ((m ∈ [1, 3, 5, 7, 8, 10, 12] ∧ d ≤ 31) ∨ (m ∈ [4, 6, 9, 11] ∧ d ≤ 30) ∨
   (m = 2 ∧ d ≤ 28) ∨ (m = 2 ∧ d = 29 ∧ (y % 400 = 0 ∨ (y % 4 = 0 ∧ y % 100 ≠ 0))))

theorem isLeap_iff (y : Nat) : isLeap y = true ↔ (y % 400 = 0 ∨ (y % 4 = 0 ∧ y % 100 ≠ 0)) := by
  simp only [isLeap, Bool.or_eq_true, Bool.and_eq_true, beq_iff_eq, bne_iff_ne, or_comm]

theorem month_cases (m : Nat) :
    1 ≤ m ∧ m ≤ 12 ↔ m ∈ [1, 3, 5, 7, 8, 10, 12] ∨ m ∈ [4, 6, 9, 11] ∨ m = 2 := by
  constructor
  · rintro ⟨h1, h12⟩; revert h1; revert m; decide
  · rintro (h | h | rfl)
    · revert m; decide
    · revert m; decide
    · decide

theorem daysInMonth_long (y : Nat) : ∀ m ∈ [1, 3, 5, 7, 8, 10, 12], daysInMonth y m = 31 := by
  intro m hm
  simp only [List.mem_cons, List.not_mem_nil, or_false] at hm
  rcases hm with rfl | rfl | rfl | rfl | rfl | rfl | rfl <;> rfl

theorem daysInMonth_short (y : Nat) : ∀ m ∈ [4, 6, 9, 11], daysInMonth y m = 30 := by
  intro m hm
  simp only [List.mem_cons, List.not_mem_nil, or_false] at hm
  rcases hm with rfl | rfl | rfl | rfl <;> rfl

theorem daysInMonth_le (y m : Nat) : daysInMonth y m ≤ 31 := by
  unfold daysInMonth
  repeat' split
  all_goals omega

theorem possibleDate_iff (y m d : Nat) : possibleDate y m d = true ↔ RealDate y m d := by
  simp only [possibleDate, RealDate, Bool.and_eq_true, decide_eq_true_eq, and_assoc]
  refine and_congr_right fun _ => and_congr_right fun _ => ?_
  -- with `month_cases` both sides are a disjunction over the three classes of months; they agree class by class
  rw [← and_assoc, month_cases, and_left_comm]
  refine and_congr_right fun _ => ?_
  rw [or_and_right, or_and_right]
  refine or_congr (and_congr_right fun h => by rw [daysInMonth_long y m h])
    (or_congr (and_congr_right fun h => by rw [daysInMonth_short y m h]) ?_)
  rw [← and_or_left, ← isLeap_iff]
  refine and_congr_right ?_
  rintro rfl
  show d ≤ (if isLeap y then 29 else 28) ↔ _
  split <;> simp [*] <;> omega

theorem possibleDate_guard {y m d : Nat} (h : possibleDate y m d = true) :
    (1 ≤ d ∧ d ≤ 31) ∧ 1 ≤ m ∧ m ≤ 12 := by
  simp only [possibleDate, Bool.and_eq_true, decide_eq_true_eq] at h
  have := daysInMonth_le y m
  omega

theorem numDateLike_iff (n1 n2 n3 : Nat) (inRange : Nat → Nat → Nat → Bool) :
    numDateLike n1 n2 n3 inRange = true ↔
      (RealDate n3 n2 n1 ∧ inRange n3 n2 n1 = true) ∨ (RealDate n1 n2 n3 ∧ inRange n1 n2 n3 = true) ∨
      (RealDate n3 n1 n2 ∧ inRange n3 n1 n2 = true) := by
  have guard := fun y m d => and_iff_right_of_imp (@possibleDate_guard y m d)
  simp only [numDateLike, Bool.or_eq_true, Bool.and_eq_true, decide_eq_true_eq, guard]
  simp only [possibleDate_iff, or_assoc]

end TddaVerif.Props.C11.Lemmas
