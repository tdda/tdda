/- Lemmas for C08: the SQL text round-trips through the tokenizer and is what the formats of drivers.py give
   (`tie_*`, against Generated/Sql.lean); a violating row is noticed. -/
import TddaVerif.Model.Sql
import TddaVerif.Generated.Sql
import TddaVerif.Py.Str
import TddaVerif.Lemmas.Verify
import TddaVerif.Lemmas.ListAux

namespace TddaVerif.Props.C08.Lemmas
open TddaVerif.Sql TddaVerif.Constraints TddaVerif.Props.C02 TddaVerif.Constraints.Order TddaVerif.Props.C02.Lemmas

theorem dbl_cons (q c : Char) (s : Text) : dbl q (c :: s) = (if c == q then [q, q] else [c]) ++ dbl q s := by
  simp [dbl]

theorem lexBody_cons_ne {q c : Char} (h : c ≠ q) (cs : Text) :
    lexBody q (c :: cs) = (lexBody q cs).map fun p => (c :: p.1, p.2) := by
  cases cs <;> simp [lexBody, h]

theorem lexBody_quote_quote (q : Char) (cs : Text) :
    lexBody q (q :: q :: cs) = (lexBody q cs).map fun p => (q :: p.1, p.2) := by
  simp [lexBody]

theorem lexBody_close {q : Char} {rest : Text} (h : rest.head? ≠ some q) :
    lexBody q (q :: rest) = some ([], rest) := by
  cases rest <;> simp_all [lexBody]

theorem lexBody_dbl {q : Char} (s : Text) {rest : Text} (hrest : rest.head? ≠ some q) :
    lexBody q (dbl q s ++ q :: rest) = some (s, rest) := by
  induction s with
  | nil => exact lexBody_close hrest
  | cons c s ih =>
    by_cases hc : c = q
    · subst hc; simp [dbl_cons, lexBody_quote_quote, ih]
    · simp [dbl_cons, hc, lexBody_cons_ne, ih]

theorem lex_quote (q : Char) (s rest : Text) (hrest : rest.head? ≠ some q) :
    lexQuoted q (quote q s ++ rest) = some (s, rest) := by
  simp [quote, lexQuoted, lexBody_dbl s hrest]

theorem quote_injective (q : Char) (s t : Text) (h : quote q s = quote q t) : s = t := by
  have h1 := lex_quote q s [] (by simp)
  have h2 := lex_quote q t [] (by simp)
  rw [h] at h1
  rw [h1] at h2
  simpa using h2

theorem dropPrefix_append (p s : Text) : dropPrefix p (p ++ s) = some s := by
  induction p with
  | nil => cases s <;> simp [dropPrefix]
  | cons a p ih => simp [dropPrefix, ih]

theorem parse_rexTerm (name r rest : Text) :
    parseTerm (rexTerm name r ++ rest) = some (name, r, rest) := by
  simp only [rexTerm, quoteIdent, stringLiteral, List.append_assoc, parseTerm, dropPrefix_append,
    Option.bind_eq_bind, Option.bind_some]
  rw [lex_quote _ _ _ (by simp)]
  simp only [Option.bind_some, dropPrefix_append]
  rw [lex_quote _ _ _ (by simp)]
  simp only [Option.bind_some, dropPrefix_append, Option.pure_def]

theorem fmt_cons_ne {c : Char} (hc : c ≠ '%') (s : Text) (args : List Text) :
    fmt (c :: s) args = c :: fmt s args := by
  cases s <;> simp [fmt, hc]

theorem fmt_append {p : Text} (hp : '%' ∉ p) (rest : Text) (args : List Text) :
    fmt (p ++ rest) args = p ++ fmt rest args := by
  induction p with
  | nil => rfl
  | cons c p ih =>
    rw [List.cons_append, fmt_cons_ne (fun h => hp (h ▸ List.mem_cons_self)),
      ih (fun h => hp (List.mem_cons_of_mem _ h))]
    rfl

theorem fmt_plain {p : Text} (hp : '%' ∉ p) (args : List Text) : fmt p args = p := by
  simpa [fmt] using fmt_append hp [] args

theorem fmt_hole {p : Text} (hp : '%' ∉ p) (rest a : Text) (as : List Text) :
    fmt (p ++ '%' :: 's' :: rest) (a :: as) = p ++ (a ++ fmt rest as) := by
  rw [fmt_append hp]; rfl

theorem replace_eq_dbl (q : Char) (s : Text) : Py.replace [q] [q, q] s = dbl q s := by
  unfold Py.replace
  induction s with
  | nil => rfl
  | cons c s ih =>
    by_cases hc : c = q
    · subst hc; simp [dbl_cons, Py.rep, Py.isPrefix, ih]
    · simp [dbl_cons, Py.rep, Py.isPrefix, ih, hc, Ne.symm hc]

theorem tie_ident (name : Text) :
    quoteIdent name = fmt Generated.Sql.identFormat [Py.replace Generated.Sql.identOld Generated.Sql.identNew name] := by
  simp only [Generated.Sql.identFormat, Generated.Sql.identOld, Generated.Sql.identNew, replace_eq_dbl]
  rfl

theorem tie_literal (s : Text) :
    stringLiteral s = fmt Generated.Sql.litFormat [Py.replace Generated.Sql.litOld Generated.Sql.litNew s] := by
  simp only [Generated.Sql.litFormat, Generated.Sql.litOld, Generated.Sql.litNew, replace_eq_dbl]
  rfl

theorem tie_term (name r : Text) :
    rexTerm name r = fmt Generated.Sql.rexTermFormat [quoteIdent name, stringLiteral r] := by
  have hf : Generated.Sql.rexTermFormat = "(".toList ++ '%' :: 's' :: (" REGEXP ".toList ++ '%' :: 's' :: ")".toList) := by
    rw [String.toList_ofList, String.toList_ofList, String.toList_ofList]
    rfl
  have h1 : '%' ∉ "(".toList := by rw [String.toList_ofList]; decide
  have h2 : '%' ∉ " REGEXP ".toList := by rw [String.toList_ofList]; decide
  have h3 : '%' ∉ ")".toList := by rw [String.toList_ofList]; decide
  rw [hf, fmt_hole h1, fmt_hole h2, fmt_plain h3]
  simp only [rexTerm, List.append_assoc]

theorem tie_statement (table name : Text) (rs : List Text) :
    rexSql table name rs = fmt Generated.Sql.rexStatementFormat
      [table, quoteIdent name, intercalate Generated.Sql.rexJoiner (rs.map (rexTerm name))] := by
  have hf : Generated.Sql.rexStatementFormat =
      "SELECT COUNT(*) FROM ".toList ++ '%' :: 's' :: (" WHERE ".toList ++ '%' :: 's' ::
        (" IS NOT NULL AND NOT(".toList ++ '%' :: 's' :: ")".toList)) := by
    rw [String.toList_ofList, String.toList_ofList, String.toList_ofList, String.toList_ofList]
    rfl
  have hj : Generated.Sql.rexJoiner = " OR ".toList := String.toList_ofList.symm
  have h1 : '%' ∉ "SELECT COUNT(*) FROM ".toList := by rw [String.toList_ofList]; decide
  have h2 : '%' ∉ " WHERE ".toList := by rw [String.toList_ofList]; decide
  have h3 : '%' ∉ " IS NOT NULL AND NOT(".toList := by rw [String.toList_ofList]; decide
  have h4 : '%' ∉ ")".toList := by rw [String.toList_ofList]; decide
  rw [hf, hj, fmt_hole h1, fmt_hole h2, fmt_hole h3, fmt_plain h4]
  unfold rexSql rexDisj
  simp only [List.append_assoc]

/- Each verdict decides its clause of `Sat` (`spec_*`), and the new row refutes the clause.  Only the clauses for
   min, max and sign need a well-typed column; the hypotheses marked as not needed are there because every statement
   of the family carries them. -/

def push (c : Column) (cell : Option Val) : Column := { c with cells := c.cells ++ [cell] }

theorem push_nonNull_some (c : Column) (v : Val) : (push c (some v)).nonNull = c.nonNull ++ [v] := by
  simp [push, Column.nonNull, List.filterMap_append]

theorem self_mem_push {c : Column} {v : Val} : v ∈ (push c (some v)).nonNull := by
  simp [push_nonNull_some]

theorem push_ftype (c : Column) (v : Val) (hwf : (push c (some v)).WF = true) : c.ftype = v.ftype :=
  (wf_ftype hwf v self_mem_push).symm

theorem violating_row_detected (cfg : Cfg) (heps : 0 ≤ cfg.epsilon) (c : Column) (cell : Option Val)
    (hwf : (push c cell).WF = true) (detect : Bool) (k : Constraint) (h : ¬ Sat cfg (push c cell) k) :
    verifyOn cfg (push c cell) detect k = false :=
  ListAux.eq_false_of_iff_of_not (C02.Lemmas.verify_eq_spec cfg heps _ hwf detect k) h

theorem below_min_detected (cfg : Cfg) (heps : cfg.epsilon = 0) (c : Column) (v b : Val) (p : Precision)
    (hwf : (push c (some v)).WF = true) (detect : Bool) (hlt : v.lt b = true) :
    verifyOn cfg (push c (some v)) detect (.min (some b) p) = false := by
  refine ListAux.eq_false_of_iff_of_not (spec_min hwf) fun hs => ?_
  simpa [le_false_of_lt hlt] using admitsMin_le heps (hs v self_mem_push)

theorem above_max_detected (cfg : Cfg) (heps : cfg.epsilon = 0) (c : Column) (v b : Val) (p : Precision)
    (hwf : (push c (some v)).WF = true) (detect : Bool) (hlt : b.lt v = true) :
    verifyOn cfg (push c (some v)) detect (.max (some b) p) = false := by
  refine ListAux.eq_false_of_iff_of_not (spec_max hwf) fun hs => ?_
  simpa [le_false_of_lt hlt] using admitsMax_le heps (hs v self_mem_push)

theorem shorter_string_detected (cfg : Cfg) (heps : 0 ≤ cfg.epsilon) (c : Column) (x : List Char) (n : Int)
    (hwf : (push c (some (.s x))).WF = true) (detect : Bool) (h : (x.length : Int) < n) :
    verifyOn cfg (push c (some (.s x))) detect (.minLength (some n)) = false := by
  have _ := heps; have _ := hwf  -- not needed
  refine ListAux.eq_false_of_iff_of_not spec_minLength fun hs => ?_
  have := hs.2 _ self_mem_push x rfl
  omega

theorem longer_string_detected (cfg : Cfg) (heps : 0 ≤ cfg.epsilon) (c : Column) (x : List Char) (n : Int)
    (hwf : (push c (some (.s x))).WF = true) (detect : Bool) (h : n < (x.length : Int)) :
    verifyOn cfg (push c (some (.s x))) detect (.maxLength (some n)) = false := by
  have _ := heps; have _ := hwf  -- not needed
  refine ListAux.eq_false_of_iff_of_not spec_maxLength fun hs => ?_
  have := hs.2 _ self_mem_push x rfl
  omega

theorem new_category_detected (cfg : Cfg) (heps : 0 ≤ cfg.epsilon) (c : Column) (v : Val) (vs : List Val)
    (hwf : (push c (some v)).WF = true) (detect : Bool) (h : ∀ a ∈ vs, a.eqv v = false) :
    verifyOn cfg (push c (some v)) detect (.allowedValues (some vs)) = false := by
  have _ := heps; have _ := hwf  -- not needed
  refine ListAux.eq_false_of_iff_of_not spec_allowed fun hs => ?_
  obtain ⟨a, ha, hav⟩ := hs v self_mem_push
  rw [h a ha] at hav
  cases hav

theorem duplicate_detected (cfg : Cfg) (heps : 0 ≤ cfg.epsilon) (c : Column) (v w : Val)
    (hwf : (push c (some v)).WF = true) (detect : Bool) (hw : w ∈ c.nonNull) (h : w.eqv v = true) :
    verifyOn cfg (push c (some v)) detect (.noDuplicates (some true)) = false := by
  have _ := heps; have _ := hwf  -- not needed
  refine ListAux.eq_false_of_iff_of_not spec_noDup fun hs => ?_
  have hs' : (c.nonNull ++ [v]).Pairwise (fun a b => a.eqv b = false) := push_nonNull_some c v ▸ hs
  have := (List.pairwise_append.mp hs').2.2 w hw v List.mem_cons_self
  rw [h] at this
  cases this

theorem nullCells_push_none (c : Column) : nullCells (push c none) = nullCells c + 1 := by
  simp [nullCells, push, List.filter_append]

theorem extra_null_detected (cfg : Cfg) (heps : 0 ≤ cfg.epsilon) (c : Column) (n : Int)
    (hwf : (push c none).WF = true) (detect : Bool) (h : (nullCells c : Int) = n) :
    verifyOn cfg (push c none) detect (.maxNulls (some n)) = false := by
  have _ := heps; have _ := hwf  -- not needed
  refine ListAux.eq_false_of_iff_of_not spec_maxNulls fun hs => ?_
  have hs' : (nullCells (push c none) : Int) ≤ n := hs
  rw [nullCells_push_none] at hs'
  omega

theorem unmatched_string_detected (cfg : Cfg) (heps : 0 ≤ cfg.epsilon) (c : Column) (x : List Char) (rs : List Nat)
    (hwf : (push c (some (.s x))).WF = true) (detect : Bool) (h : ∀ r ∈ rs, cfg.rx r x = false) :
    verifyOn cfg (push c (some (.s x))) detect (.rex (some rs)) = false := by
  have _ := heps; have _ := hwf  -- not needed
  refine ListAux.eq_false_of_iff_of_not spec_rex fun hs => ?_
  obtain ⟨y, hy, r, hr, hrx⟩ := hs.2 _ self_mem_push
  cases hy
  rw [h r hr] at hrx
  cases hrx

theorem wrong_sign_detected (cfg : Cfg) (heps : 0 ≤ cfg.epsilon) (c : Column) (v : Val) (q : Rat) (s : Sign)
    (hwf : (push c (some v)).WF = true) (detect : Bool) (hq : v.num = some q) (h : ¬ SignHolds s q) :
    verifyOn cfg (push c (some v)) detect (.sign (some s)) = false := by
  have _ := heps  -- not needed
  refine ListAux.eq_false_of_iff_of_not (spec_sign hwf) fun hs => ?_
  obtain ⟨q', hq', hsq⟩ := hs v self_mem_push
  rw [hq] at hq'
  cases hq'
  exact h hsq

end TddaVerif.Props.C08.Lemmas
