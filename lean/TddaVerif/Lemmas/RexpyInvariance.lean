/- C14 on the batch path: `clean` treats a frequency dictionary and the list it stands for alike (the counts of one
   example add up: `cleanStep_add`), without pruning only the cleaned strings and whether anything was stripped matter
   (`extract_of_same_strings`), so repeating an example changes nothing. -/
import TddaVerif.Model.Rexpy
import TddaVerif.Props.C03Spec
import TddaVerif.Lemmas.RexpySound

namespace TddaVerif.Props.C14.Lemmas
open TddaVerif.Py TddaVerif.Rexpy TddaVerif.Props.C03 TddaVerif.Props.C03.Lemmas

/-- a frequency dictionary, written out as the list it stands for -/
def expand (items : List (Option Line × Nat)) : List (Option Line × Nat) :=
  (items.map (fun it => List.replicate it.2 (it.1, 1))).flatten

theorem cleanFold_replicate (so re : Bool) (x : Option Line) (n : Nat) (st : List (Line × Nat) × Nat) :
    (List.replicate n (x, 1)).foldl (cleanStep so re) st = cleanStep so re st (x, n) := by
  induction n generalizing st with
  | zero => cases x <;> rfl
  | succ n ih => rw [List.replicate_succ, List.foldl_cons, ih, cleanStep_add, Nat.add_comm]

theorem clean_expand (stripOpt removeEmpties : Bool) (items : List (Option Line × Nat)) :
    clean stripOpt removeEmpties (expand items) = clean stripOpt removeEmpties items := by
  rw [clean_eq_fold, clean_eq_fold, expand, List.foldl_flatten, List.foldl_map]
  simp only [cleanFold_replicate]

theorem extract_of_same_strings (T : CharTable) {o : Opts} (hmax : o.maxPatterns = none) (hmin : o.minStrings ≤ 1)
    {items items' : List (Option Line × Nat)} (hs : (cleaned o items).strings = (cleaned o items').strings)
    (hn : decide ((cleaned o items).nStripped > 0) = decide ((cleaned o items').nStripped > 0)) :
    extract T o items = extract T o items' := by
  simp only [extract_eq, hs, hn, pruned_eq_self hmax hmin, batchExtractE_congr T o _ hs hn]

theorem repeat_is_noop (T : CharTable) (o : Opts)
    (hprune : o.maxPatterns = none ∧ o.minStrings ≤ 1) (items : List (Option Line × Nat)) (s : Line) (n k : Nat)
    (hin : (some s, n) ∈ items) (hn : n ≠ 0) :
    extract T o (items ++ [(some s, k)]) = extract T o items := by
  apply extract_of_same_strings T hprune.1 hprune.2
  · -- one more step of the loop; the copy among `items` has made the cleaned form a key already
    rw [cleaned, cleaned, clean_eq_fold, clean_eq_fold, List.foldl_append, List.foldl_cons, List.foldl_nil, cleanStep_contrib]
    cases hc : contrib o.stripOpt o.removeEmpties (some s, k) with
    | none => rfl
    | some c =>
      obtain ⟨t, k', d⟩ := c
      obtain ⟨s', h0, -, ht, hre, -⟩ := contrib_eq_some.1 hc
      cases h0
      exact (bump_keys t k _).trans (if_pos (mem_clean_strings.2 ⟨s, n, hin, hn, ht, hre⟩))
  · -- if stripping changes the new copy, it changes the copy among `items`
    rw [decide_eq_decide, clean_nStripped_pos, clean_nStripped_pos]
    constructor
    · rintro ⟨s', n', hin', h⟩
      rcases List.mem_append.1 hin' with hin' | hin'
      · exact ⟨s', n', hin', h⟩
      · cases List.mem_singleton.1 hin'
        exact ⟨s, n, hin, hn, h.2⟩
    · rintro ⟨s', n', hin', h⟩
      exact ⟨s', n', List.mem_append_left _ hin', h⟩

end TddaVerif.Props.C14.Lemmas
