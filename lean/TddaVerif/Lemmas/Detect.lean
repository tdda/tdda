/- C06: detection.  For the record-wise kinds the flag of a record is the verifier's verdict on the column
reduced to that record (`detectFlags_recordWise`), so what a flag means comes from C02's `verify_eq_spec`. -/
import TddaVerif.Lemmas.Verify

namespace TddaVerif.Props.C06
open TddaVerif.Constraints TddaVerif.Props.C02

/- The property statements use the primed definitions under their unprimed names (abbreviations in Props/C06.lean). -/

def single' (c : Column) (v : Val) : Column := { c with cells := [some v] }

/-- the `colCoarse` that the min and max arms of `detectFlags` compute in line (`min_unfold`, `max_unfold` hold by `rfl`) -/
def ftCoarse' : FType → Option Coarse
  | .bool | .int | .real => some .number
  | .string => some .string
  | .date => some .date
  | .other => none

/-- The constraints whose flag for a record depends on that record alone: a bound of the column's coarse type, a
    length or an expression on a string column, a sign class other than null on a numeric column, allowed values.
    Not among them: type, max_nulls and no_duplicates, and what is flagged for the column as a whole (a bound of
    another coarse type; a length, expression or sign on a column of the wrong type). -/
def RecordWise' (c : Column) : Constraint → Prop
  | .min (some b) _ => ftCoarse' c.ftype = some b.coarse
  | .max (some b) _ => ftCoarse' c.ftype = some b.coarse
  | .minLength (some _) => c.ftype = .string
  | .maxLength (some _) => c.ftype = .string
  | .sign (some s) => (c.ftype = .bool ∨ c.ftype = .int ∨ c.ftype = .real) ∧ s ≠ .null
  | .allowedValues (some _) => True
  | .rex (some _) => c.ftype = .string
  | _ => False

end TddaVerif.Props.C06

namespace TddaVerif.Props.C06.Lemmas
open TddaVerif.Constraints TddaVerif.Props.C02 TddaVerif.Props.C06 TddaVerif.Constraints.Order
open TddaVerif.Props.C02.Lemmas

theorem detect_verdicts_eq_verify (cfg : Cfg) (heps : 0 ≤ cfg.epsilon) (c : Column) (hwf : c.WF = true)
    (k : Constraint) : verifyOn cfg c true k = verifyOn cfg c false k :=
  verify_flag_irrelevant cfg heps c hwf k

theorem detField_eq_map (cells : List (Option Val)) (d : Option Bool) (p : Val → Bool) :
    detField cells d p = cells.map (fun x => (x.map p).or d) := by
  unfold detField
  split
  · rename_i hall
    refine List.map_congr_left fun x hx => ?_
    cases x with
    | none => simpa using List.all_eq_true.mp hall none hx
    | some v => rfl
  · exact List.map_congr_left fun x _ => by cases x <;> rfl

theorem detField_congr {cells : List (Option Val)} {d : Option Bool} {p q : Val → Bool}
    (h : ∀ v, some v ∈ cells → p v = q v) : detField cells d p = detField cells d q := by
  rw [detField_eq_map, detField_eq_map]
  refine List.map_congr_left fun x hx => ?_
  cases x with
  | none => rfl
  | some v => simp [h v hx]

theorem detField_length (cells : List (Option Val)) (d : Option Bool) (p : Val → Bool) :
    (detField cells d p).length = cells.length := by
  simp [detField_eq_map]

theorem constFlags_length (c : Column) (b : Bool) : (constFlags c b).length = c.cells.length := by
  simp [constFlags]

section length
variable {n : Nat} {x y : Option (List (Option Bool))}

theorem flags_length_some {l : List (Option Bool)} (h : l.length = n) : ∀ fl, some l = some fl → fl.length = n := by
  rintro _ ⟨⟩; exact h

theorem flags_length_ite {A : Prop} [Decidable A] (hx : ∀ fl, x = some fl → fl.length = n)
    (hy : ∀ fl, y = some fl → fl.length = n) : ∀ fl, (if A then x else y) = some fl → fl.length = n := by
  split <;> assumption

end length

theorem flags_length (cfg : Cfg) (c : Column) (k : Constraint) (fl : List (Option Bool))
    (h : detectFlags cfg c k = some fl) : fl.length = c.cells.length := by
  have hc := flags_length_some (constFlags_length c false)
  have hd {d p} := flags_length_some (detField_length c.cells d p)
  revert fl
  -- each arm of `detectFlags` is a tree of `if`s over `constFlags` and `detField`; the terms follow that tree
  exact match k with
  | .type _ => hc
  | .min (some _) _ | .max (some _) _ => flags_length_ite hc (flags_length_ite hd (flags_length_ite hd hd))
  | .minLength (some _) | .maxLength (some _) | .rex (some _) => flags_length_ite hc hd
  | .sign (some s) => flags_length_ite hc (match s with
      | .null => hc
      | .positive | .nonNegative | .zero | .nonPositive | .negative => hd)
  | .maxNulls (some _) => flags_length_some (List.length_map _)
  | .noDuplicates (some true) | .allowedValues (some _) => hd
  | .min none _ | .max none _ | .minLength none | .maxLength none | .sign none | .maxNulls none
  | .noDuplicates none | .noDuplicates (some false) | .allowedValues none | .rex none => nofun

theorem single_nonNull (c : Column) (v : Val) : (single' c v).nonNull = [v] := rfl
theorem single_ftype (c : Column) (v : Val) : (single' c v).ftype = c.ftype := rfl

theorem wf_single {c : Column} (hwf : c.WF = true) {v : Val} (hv : v ∈ c.nonNull) :
    (single' c v).WF = true :=
  wf_iff.mpr ⟨wf_ne_other c hwf, fun _ hx => List.mem_singleton.mp hx ▸ wf_ftype hwf v hv⟩

theorem beq_date_of_ftCoarse {ft : FType} {k : Coarse} (hk : ftCoarse' ft = some k) :
    (ft == .date) = (k == .date) := by
  cases ft <;> cases hk <;> rfl

theorem ftCoarse_ftype (v : Val) : ftCoarse' v.ftype = some v.coarse := by cases v <;> rfl

theorem coarse_eq_of_ftCoarse {c : Column} (hwf : c.WF = true) {b : Val}
    (hk : ftCoarse' c.ftype = some b.coarse) {v : Val} (hv : v ∈ c.nonNull) : v.coarse = b.coarse :=
  Option.some.inj ((ftCoarse_ftype v).symm.trans (wf_ftype hwf v hv ▸ hk))

theorem min_unfold (cfg : Cfg) (c : Column) (b : Val) (p : Precision) :
    detectFlags cfg c (.min (some b) p) =
      if ftCoarse' c.ftype != some b.coarse then some (constFlags c false)
      else if p == .closed || c.ftype == .date then some (detField c.cells none (fun x => b.le x))
      else if p == .open_ then some (detField c.cells none (fun x => b.lt x))
      else some (detField c.cells none (fun x => fuzzyGe x b cfg.epsilon)) := rfl

theorem max_unfold (cfg : Cfg) (c : Column) (b : Val) (p : Precision) :
    detectFlags cfg c (.max (some b) p) =
      if ftCoarse' c.ftype != some b.coarse then some (constFlags c false)
      else if p == .closed || c.ftype == .date then some (detField c.cells none (fun x => x.le b))
      else if p == .open_ then some (detField c.cells none (fun x => x.lt b))
      else some (detField c.cells none (fun x => fuzzyLe x b cfg.epsilon)) := rfl

theorem detField_ite {A B : Prop} [Decidable A] [Decidable B] {cells : List (Option Val)}
    {f g h q : Val → Bool} (hq : ∀ v, some v ∈ cells → (if A then f v else if B then g v else h v) = q v) :
    (if A then some (detField cells none f) else if B then some (detField cells none g)
      else some (detField cells none h)) = some (detField cells none q) := by
  rw [← detField_congr hq]
  split
  · rfl
  · split <;> rfl

theorem detectFlags_recordWise {cfg : Cfg} {c : Column} (hwf : c.WF = true) {k : Constraint}
    (hk : RecordWise' c k) :
    detectFlags cfg c k = some (detField c.cells none (fun v => verifyOn cfg (single' c v) true k)) := by
  -- on one record `v` the aggregates are `v` itself, so each verdict below is what `verifyOn` computes (`show`)
  match k, hk with
  | .min (some b) p, hk =>
    have hk' : ftCoarse' c.ftype = some b.coarse := hk
    rw [min_unfold, if_neg (by simp [hk'])]
    refine detField_ite fun v hv => ?_
    have hc := coarse_eq_of_ftCoarse hwf hk' (mem_nonNull.mpr hv)
    show _ = minOk cfg p v b
    simp [minOk, hc, beq_date_of_ftCoarse hk']
  | .max (some b) p, hk =>
    have hk' : ftCoarse' c.ftype = some b.coarse := hk
    rw [max_unfold, if_neg (by simp [hk'])]
    refine detField_ite fun v hv => ?_
    have hc := coarse_eq_of_ftCoarse hwf hk' (mem_nonNull.mpr hv)
    show _ = maxOk cfg p v b
    simp [maxOk, hc, beq_date_of_ftCoarse hk']
  | .minLength (some _), hk | .maxLength (some _), hk | .rex (some _), hk =>
    have hk' : c.ftype = .string := hk
    simp only [detectFlags, hk', bne_self_eq_false, Bool.false_eq_true, if_false]
    refine congrArg some (detField_congr fun v hv => ?_)
    obtain ⟨x, rfl⟩ := str_of_wf hwf hk' (mem_nonNull.mpr hv)
    simp [verifyOn, single_ftype, hk', calcMinLength, calcMaxLength, strLens, single_nonNull, listMin, listMax]
  | .sign (some s), hk =>
    obtain ⟨hnum, hs⟩ : (c.ftype = .bool ∨ c.ftype = .int ∨ c.ftype = .real) ∧ s ≠ .null := hk
    have hg : (!(c.ftype == .bool || c.ftype == .int || c.ftype == .real)) = false := by
      rcases hnum with h | h | h <;> rw [h] <;> rfl
    show _ = some (detField c.cells none (fun v => signOk s v v))
    simp only [detectFlags, hg, Bool.false_eq_true, if_false]
    cases s with
    | null => exact absurd rfl hs
    | positive | nonNegative | zero | nonPositive | negative =>
      refine congrArg some (detField_congr fun v _ => ?_)
      cases hn : v.num <;> simp [signOk, hn]
  | .allowedValues (some vs), _ =>
    refine congrArg some (detField_congr fun v _ => ?_)
    simp [verifyOn, single_nonNull, dedup]
  | .type _, hk | .maxNulls _, hk | .noDuplicates _, hk | .min none _, hk | .max none _, hk
  | .minLength none, hk | .maxLength none, hk | .sign none, hk | .allowedValues none, hk
  | .rex none, hk => exact hk.elim

theorem flag_false_iff_violates (cfg : Cfg) (heps : 0 ≤ cfg.epsilon) (c : Column) (hwf : c.WF = true)
    (k : Constraint) (hk : RecordWise' c k) (fl : List (Option Bool))
    (h : detectFlags cfg c k = some fl) (i : Nat) (hi : i < c.cells.length) :
    (c.cells[i]? = some none → fl[i]? = some none) ∧
    (∀ v, c.cells[i]? = some (some v) → ∃ b, fl[i]? = some (some b) ∧ (b = true ↔ Sat cfg (single' c v) k)) := by
  have _ := hi  -- not needed: it follows from `c.cells[i]? = some _`
  rw [detectFlags_recordWise hwf hk, Option.some.injEq] at h
  subst h
  simp only [detField_eq_map, List.getElem?_map]
  refine ⟨fun h0 => by simp [h0], fun v hv => ⟨verifyOn cfg (single' c v) true k, by simp [hv], ?_⟩⟩
  exact verify_eq_spec cfg heps _ (wf_single hwf (mem_nonNull.mpr (List.mem_of_getElem? hv))) true k

theorem type_failure_flags_all (cfg : Cfg) (c : Column) (ts : Option (List FType)) :
    detectFlags cfg c (.type ts) = some (c.cells.map (fun _ => some false)) := rfl

theorem wrong_typed_bound_flags_all (cfg : Cfg) (c : Column) (b : Val) (p : Precision)
    (h : ftCoarse' c.ftype ≠ some b.coarse) :
    detectFlags cfg c (.min (some b) p) = some (c.cells.map (fun _ => some false)) ∧
    detectFlags cfg c (.max (some b) p) = some (c.cells.map (fun _ => some false)) := by
  have hne : (ftCoarse' c.ftype != some b.coarse) = true := by simpa using h
  constructor
  · rw [min_unfold, if_pos hne]; rfl
  · rw [max_unfold, if_pos hne]; rfl

theorem maxNulls_flags_nulls (cfg : Cfg) (c : Column) (n : Int) :
    detectFlags cfg c (.maxNulls (some n)) = some (c.cells.map (fun x => some x.isSome)) := rfl

theorem noDuplicates_flags (cfg : Cfg) (c : Column) (fl : List (Option Bool))
    (h : detectFlags cfg c (.noDuplicates (some true)) = some fl) (i : Nat) (hi : i < c.cells.length) :
    (c.cells[i]? = some none → fl[i]? = some (some true)) ∧
    (∀ v, c.cells[i]? = some (some v) →
        fl[i]? = some (some (decide ((c.nonNull.filter (fun w => w.eqv v)).length ≤ 1)))) := by
  have _ := hi  -- not needed
  simp only [detectFlags, Option.some.injEq] at h
  subst h
  simp only [detField_eq_map, List.getElem?_map]
  refine ⟨fun h0 => by simp [h0], fun v hv => ?_⟩
  simp [hv, isDuplicated, ← Nat.not_le]

theorem flagRow_length (row : List (Option Bool)) :
    row.length = (row.filter (· == some true)).length + (row.filter (· == none)).length
      + (row.filter (· == some false)).length := by
  induction row with
  | nil => rfl
  | cons x xs ih =>
    simp only [List.filter_cons, List.length_cons, ih]
    rcases x with _ | _ | _ <;> simp +arith

theorem nFailures_eq (cols : List (List (Option Bool))) (n : Nat) :
    nFailures cols n = (List.range n).map (fun i =>
      (cols.filter (fun col => col.getD i none == some false)).length) := by
  unfold nFailures
  refine List.map_congr_left fun i _ => ?_
  have h := flagRow_length (cols.map (fun col => col.getD i none))
  have h2 : ((cols.map (fun col => col.getD i none)).filter (· == some false)).length
      = (cols.filter (fun col => col.getD i none == some false)).length := by
    rw [List.filter_map, List.length_map]; rfl
  simp only
  omega

theorem nFailures_exact (cols : List (List (Option Bool))) (n : Nat) (i : Nat) (hi : i < n) :
    (nFailures cols n)[i]? = some ((cols.filter (fun col => col.getD i none == some false)).length) := by
  rw [nFailures_eq, List.getElem?_map, List.getElem?_range hi]
  rfl

theorem counts_partition (cols : List (List (Option Bool))) (n : Nat) :
    nPassing (nFailures cols n) + nFailing (nFailures cols n) = n ∧
    nFailing (nFailures cols n) =
      ((List.range n).filter (fun i => cols.any (fun col => col.getD i none == some false))).length := by
  refine ⟨(Nat.sub_add_cancel (List.length_filter_le _ _)).trans
    (by rw [nFailures, List.length_map, List.length_range]), ?_⟩
  rw [nFailures_eq, nFailing, List.filter_map, List.length_map]
  refine congrArg _ (List.filter_congr fun i _ => ?_)
  rw [Bool.eq_iff_iff]
  simp only [Function.comp, decide_eq_true_eq, gt_iff_lt, List.length_filter_pos_iff, List.any_eq_true]

end TddaVerif.Props.C06.Lemmas
