/- C19, pytest side: what the collection filter `filterItems` keeps and prints.  Under the tagged option it is `List.filter`;
   under the list-tagged option nothing is kept and `printed` names a class the first time one of its tagged tests is met
   (`mem_printed`, for any list of classes shown already; `printed_nodup`). -/
import TddaVerif.Model.RefPytest
namespace TddaVerif.Props.PytestLemmas
open TddaVerif.RefTestCase TddaVerif.RefPytest

theorem tagged_selects_exactly (items : List Item) :
    filterItems true false items = (items.filter (·.tagged), []) := by
  simp [filterItems]

theorem check_runs_none (run : Bool) (items : List Item) : (filterItems run true items).1 = [] := by
  cases run <;> simp [filterItems]

theorem mem_printed (items : List Item) (n : Name) (shown : List Name) :
    n ∈ printed items shown ↔
      (∃ i ∈ items, i.tagged = true ∧ i.cls = some n ∧ n ∉ shown) ∨
      (∃ i ∈ items, i.tagged = true ∧ i.cls = none ∧ i.name = n) := by
  -- in each case the head item is split off both sides
  fun_induction printed items shown with
    simp only [List.mem_cons, List.not_mem_nil, exists_eq_or_imp, *, true_and, false_and, exists_false,
      Option.some.injEq, reduceCtorEq, false_or, or_self]
  | case2 i rest shown ht c hc hs ih =>
    -- its class is shown already
    exact (or_congr_left (or_iff_right fun ⟨e, h⟩ => h (e ▸ by simpa using hs))).symm
  | case3 i rest shown ht c hc hs ih =>
    -- its class is printed here and shown from here on
    by_cases hn : n = c
    · subst hn; simp [(by simpa using hs : n ∉ shown)]
    · simp [hn, Ne.symm hn]
  | case4 i rest shown ht hc ih => rw [or_left_comm, eq_comm]

theorem filterItems_printed (run : Bool) (items : List Item) :
    (filterItems run true items).2 = printed items [] := by
  cases run <;> simp [filterItems]

theorem check_lists_exactly (run : Bool) (items : List Item) (n : Name) :
    n ∈ (filterItems run true items).2 ↔
      (∃ i ∈ items, i.tagged = true ∧ i.cls = some n) ∨ (∃ i ∈ items, i.tagged = true ∧ i.cls = none ∧ i.name = n) := by
  rw [filterItems_printed, mem_printed]
  simp

theorem not_mem_printed {items : List Item} (hm : ∀ i ∈ items, i.cls.isSome = true) {n : Name}
    {shown : List Name} (h : n ∈ shown) : n ∉ printed items shown := by
  rw [mem_printed]
  rintro (⟨_, _, _, _, h'⟩ | ⟨i, hi, _, hc, _⟩)
  · exact h' h
  · simpa [hc] using hm i hi

theorem printed_nodup (items : List Item) (hm : ∀ i ∈ items, i.cls.isSome = true) (shown : List Name) :
    (printed items shown).Nodup := by
  fun_induction printed items shown with
  | case1 => exact .nil
  | case2 i rest shown _ c _ _ ih => exact ih (List.forall_mem_cons.mp hm).2
  | case3 i rest shown _ c _ _ ih =>
    have hr := (List.forall_mem_cons.mp hm).2
    exact List.nodup_cons.mpr ⟨not_mem_printed hr List.mem_cons_self, ih hr⟩
  | case4 i rest shown _ hc => simp [hc] at hm
  | case5 i rest shown _ ih => exact ih (List.forall_mem_cons.mp hm).2

example : filterItems true false
    [⟨"test_a".toList, some "TestA".toList, false, true⟩, ⟨"test_b".toList, some "TestA".toList, false, false⟩,
     ⟨"test_fn".toList, none, false, false⟩, ⟨"test_c".toList, some "TestB".toList, true, false⟩] =
    ([⟨"test_a".toList, some "TestA".toList, false, true⟩, ⟨"test_c".toList, some "TestB".toList, true, false⟩], []) := rfl
example : (filterItems false true
    [⟨"test_a".toList, some "TestA".toList, false, true⟩, ⟨"test_b".toList, some "TestA".toList, false, true⟩,
     ⟨"test_fn".toList, none, false, true⟩]).2 = ["TestA".toList, "test_fn".toList] := by decide

end TddaVerif.Props.PytestLemmas
