/-
The Python string primitives of `Py/Str.lean` and `Py/Text.lean` in terms of core's `List` functions and order, so that
their properties are core's: `isPrefix` is `List.isPrefixOf`, `lstrip` is `dropWhile isSpace`, `joinNl` is
`List.intercalate ['\n']`, `ltLine` decides `<` on `List Char`.  And one fact about `str.replace`: it distributes over a
character that does not occur in the text searched for (`replace_append_sep`).
-/
import TddaVerif.Py.Text
import TddaVerif.Lemmas.ListAux
namespace TddaVerif.Py

theorem isPrefix_eq_isPrefixOf : ∀ p s : List Char, isPrefix p s = p.isPrefixOf s
  | [], _ => by simp [isPrefix]
  | _ :: _, [] => rfl
  | a :: as, b :: bs => by rw [isPrefix, List.isPrefixOf, isPrefix_eq_isPrefixOf as bs]

theorem isPrefix_iff {p s : List Char} : isPrefix p s = true ↔ p <+: s := by
  rw [isPrefix_eq_isPrefixOf, List.isPrefixOf_iff_prefix]

theorem lstrip_eq_dropWhile : ∀ s : Line, lstrip s = s.dropWhile isSpace
  | [] => rfl
  | c :: cs => by rw [lstrip, List.dropWhile_cons, lstrip_eq_dropWhile cs]

theorem lstrip_idem (s : Line) : lstrip (lstrip s) = lstrip s := by
  induction s with
  | nil => rfl
  | cons c cs ih =>
    by_cases h : isSpace c
    · simp [lstrip, h, ih]
    · simp [lstrip, h]

theorem rstrip_idem (l : Line) : rstrip (rstrip l) = rstrip l := by
  simp [rstrip, lstrip_idem]

theorem rstrip_sublist (l : Line) : (rstrip l).Sublist l :=
  List.reverse_sublist.1 (by simpa [rstrip, lstrip_eq_dropWhile] using List.dropWhile_sublist isSpace)

theorem lstrip_decompose (s : Line) : ∃ pre, s = pre ++ lstrip s ∧ ∀ c ∈ pre, isSpace c = true :=
  ⟨s.takeWhile isSpace, by rw [lstrip_eq_dropWhile, List.takeWhile_append_dropWhile],
    fun _ h => ListAux.mem_takeWhile h⟩

theorem rstrip_decompose (s : Line) : ∃ post, s = rstrip s ++ post ∧ ∀ c ∈ post, isSpace c = true := by
  obtain ⟨pre, h1, h2⟩ := lstrip_decompose s.reverse
  exact ⟨pre.reverse, by simpa [rstrip] using congrArg List.reverse h1, fun c hc => h2 c (List.mem_reverse.1 hc)⟩

theorem strip_decompose (s : Line) :
    ∃ pre post, s = pre ++ strip s ++ post ∧ (∀ c ∈ pre, isSpace c = true) ∧ (∀ c ∈ post, isSpace c = true) := by
  obtain ⟨pre, h1, h2⟩ := lstrip_decompose s
  obtain ⟨post, h3, h4⟩ := rstrip_decompose (lstrip s)
  refine ⟨pre, post, ?_, h2, h4⟩
  show s = pre ++ rstrip (lstrip s) ++ post
  rw [List.append_assoc, ← h3, ← h1]

theorem joinNl_eq : ∀ ls : List Line, joinNl ls = ['\n'].intercalate ls
  | [] => rfl
  | [l] => List.intercalate_singleton.symm
  | l :: m :: r => by rw [List.intercalate_cons_cons, ← joinNl_eq (m :: r), List.append_assoc]; rfl

theorem splitlinesAux_afterCR (cs cur : Line) (h : ∀ cs', cs ≠ '\n' :: cs') :
    splitlinesAux cs cur true = splitlinesAux cs cur false := by
  cases cs with
  | nil => rfl
  | cons c cs' =>
    have : c ≠ '\n' := fun hc => h cs' (by rw [hc])
    simp [splitlinesAux, this]

theorem isPrefix_append_sep {old a b : List Char} {c : Char} (hc : c ∉ old) :
    isPrefix old (a ++ c :: b) = isPrefix old a := by
  induction old generalizing a with
  | nil => simp [isPrefix]
  | cons o os ih =>
    rw [List.mem_cons, not_or] at hc
    cases a with
    | nil => simp [isPrefix, Ne.symm hc.1]
    | cons x xs => simp [isPrefix, ih hc.2]

theorem rep_append_sep {old new : List Char} {c : Char} (hc : c ∉ old) (hne : old ≠ []) {a b : List Char} {k : Nat}
    (hk : k ≤ a.length) :
    rep old new k (a ++ c :: b) = rep old new k a ++ c :: rep old new 0 b := by
  fun_induction rep old new k a with
  | case1 k =>
    obtain rfl : k = 0 := by simpa using hk
    have hp : isPrefix old (c :: b) = false := by
      rw [← List.nil_append (c :: b), isPrefix_append_sep hc]
      cases old with
      | nil => exact absurd rfl hne
      | cons => rfl
    simp [rep, hp]
  | case2 k x xs ih => simpa only [List.cons_append, rep] using ih (by simpa using hk)
  | case3 x xs hp ih =>
    -- the match lies inside `x :: xs`, so the characters still to be skipped are in `xs`
    have hl := (isPrefix_iff.1 hp).length_le
    rw [List.cons_append, rep, ← List.cons_append, isPrefix_append_sep hc, if_pos hp, ih (by simp at hl; omega)]
    simp
  | case4 x xs hp ih =>
    rw [List.cons_append, rep, ← List.cons_append, isPrefix_append_sep hc, if_neg hp, ih (Nat.zero_le _)]
    simp

theorem replace_append_sep (old new : List Char) (c : Char) (hc : c ∉ old) (hne : old ≠ [])
    (a b : List Char) :
    replace old new (a ++ c :: b) = replace old new a ++ c :: replace old new b :=
  rep_append_sep hc hne (Nat.zero_le _)

theorem toNat_lt_iff (a b : Char) : a.toNat < b.toNat ↔ a < b := Iff.rfl

theorem ltLine_iff : ∀ a b : Line, ltLine a b = true ↔ a < b
  | [], [] => by simp [ltLine]
  | [], _ :: _ => by simp [ltLine]
  | _ :: _, [] => by simp [ltLine]
  | a :: as, b :: bs => by
    rw [ltLine, List.cons_lt_cons_iff, ← ltLine_iff as bs, ← toNat_lt_iff, ← Char.toNat_inj]
    split
    · simp [*]
    · split <;> simp [*] <;> omega

theorem ltLine_eq_false_iff (a b : Line) : ltLine a b = false ↔ b ≤ a := by
  rw [← Bool.not_eq_true, ltLine_iff, List.not_lt]

theorem ltLine_asymm {a b : Line} (h : ltLine a b = true) : ltLine b a = false :=
  (ltLine_eq_false_iff b a).2 (List.le_of_lt ((ltLine_iff a b).1 h))

end TddaVerif.Py
