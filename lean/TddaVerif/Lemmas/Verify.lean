/- C02: the verifier's verdict is the documented meaning `Sat` of Props/C02Spec.lean.  One lemma `spec_*` per
constraint kind; a verdict taken at an aggregate becomes a statement about every cell through
`ListAux.forall_mem_iff_of_least`. -/
import TddaVerif.Lemmas.Aggregates
import TddaVerif.Lemmas.ListAux

namespace TddaVerif.Props.C02.Lemmas
open TddaVerif.Constraints TddaVerif.Props.C02 TddaVerif.Constraints.Order

theorem fuzzDown_eq (y eps : Rat) : fuzzDown y eps = y - eps * absRat y := by
  unfold fuzzDown absRat; split <;> grind

theorem fuzzUp_eq (y eps : Rat) : fuzzUp y eps = y + eps * absRat y := by
  unfold fuzzUp absRat; split <;> grind

theorem fuzzyGe_iff {v b : Val} {eps : Rat} : fuzzyGe v b eps = true ↔
    (b.le v = true ∨ ∃ x y, v.num = some x ∧ b.num = some y ∧ y - eps * absRat y ≤ x) := by
  unfold fuzzyGe
  rw [Bool.or_eq_true]
  cases hv : v.num <;> cases hb : b.num <;> simp [fuzzDown_eq]

theorem fuzzyLe_iff {v b : Val} {eps : Rat} : fuzzyLe v b eps = true ↔
    (v.le b = true ∨ ∃ x y, v.num = some x ∧ b.num = some y ∧ x ≤ y + eps * absRat y) := by
  unfold fuzzyLe
  rw [Bool.or_eq_true]
  cases hv : v.num <;> cases hb : b.num <;> simp [fuzzUp_eq]

theorem minOk_iff_admits (cfg : Cfg) (p : Precision) (v b : Val) :
    minOk cfg p v b = true ↔ AdmitsMin cfg p b v := by
  unfold minOk AdmitsMin
  by_cases hc : v.coarse = b.coarse
  · simp only [hc, bne_self_eq_false, Bool.false_eq_true, if_false, true_and, Bool.or_eq_true,
      beq_iff_eq, ← fuzzyGe_iff, Bool.ite_eq_true_distrib]
  · simp [hc]

theorem maxOk_iff_admits (cfg : Cfg) (p : Precision) (v b : Val) :
    maxOk cfg p v b = true ↔ AdmitsMax cfg p b v := by
  unfold maxOk AdmitsMax
  by_cases hc : v.coarse = b.coarse
  · simp only [hc, bne_self_eq_false, Bool.false_eq_true, if_false, true_and, Bool.or_eq_true,
      beq_iff_eq, ← fuzzyLe_iff, Bool.ite_eq_true_distrib]
  · simp [hc]

theorem admitsMin_mono {cfg : Cfg} {p : Precision} {b m v : Val} (hle : m.le v = true) :
    AdmitsMin cfg p b m → AdmitsMin cfg p b v := by
  have hc : m.coarse = v.coarse := le_coarse hle
  unfold AdmitsMin
  refine fun ⟨h1, h2⟩ => ⟨hc ▸ h1, ?_⟩
  -- the tests that choose the comparison do not look at the value: compare arm by arm
  revert h2
  split
  · exact (le_trans · hle)
  · split
    · exact (lt_of_lt_of_le · hle)
    · rintro (h2 | ⟨x, y, hx, hy, hxy⟩)
      · exact .inl (le_trans h2 hle)
      · obtain ⟨x', hx'⟩ := num_of_coarse hc hx
        exact .inr ⟨x', y, hx', hy, Rat.le_trans hxy ((le_num hx hx').mp hle)⟩

theorem admitsMax_mono {cfg : Cfg} {p : Precision} {b m v : Val} (hle : v.le m = true) :
    AdmitsMax cfg p b m → AdmitsMax cfg p b v := by
  have hc : v.coarse = m.coarse := le_coarse hle
  unfold AdmitsMax
  refine fun ⟨h1, h2⟩ => ⟨hc ▸ h1, ?_⟩
  revert h2
  split
  · exact (le_trans hle ·)
  · split
    · exact (lt_of_le_of_lt hle ·)
    · rintro (h2 | ⟨x, y, hx, hy, hxy⟩)
      · exact .inl (le_trans hle h2)
      · obtain ⟨x', hx'⟩ := num_of_coarse hc.symm hx
        exact .inr ⟨x', y, hx', hy, Rat.le_trans ((le_num hx' hx).mp hle) hxy⟩

theorem admitsMin_le {cfg : Cfg} {p : Precision} {b v : Val} (heps : cfg.epsilon = 0)
    (h : AdmitsMin cfg p b v) : b.le v = true := by
  obtain ⟨_, h⟩ := h
  split at h
  · exact h
  · split at h
    · exact le_of_lt h
    · rcases h with h | ⟨x, y, hx, hy, hxy⟩
      · exact h
      · exact (le_num hy hx).mpr (by simpa [heps, Rat.sub_eq_add_neg, Rat.add_zero] using hxy)

theorem admitsMax_le {cfg : Cfg} {p : Precision} {b v : Val} (heps : cfg.epsilon = 0)
    (h : AdmitsMax cfg p b v) : v.le b = true := by
  obtain ⟨_, h⟩ := h
  split at h
  · exact h
  · split at h
    · exact le_of_lt h
    · rcases h with h | ⟨x, y, hx, hy, hxy⟩
      · exact h
      · exact (le_num hx hy).mpr (by simpa [heps, Rat.add_zero] using hxy)

theorem spec_min {cfg : Cfg} {c : Column} (hwf : c.WF = true) {detect : Bool} {b : Val}
    {p : Precision} : verifyOn cfg c detect (.min (some b) p) = true ↔ Sat cfg c (.min (some b) p) := by
  simp only [verifyOn, Sat, calcMin]
  cases hm : minOf c.nonNull with
  | none => simp [minOf_eq_none.mp hm]
  | some m =>
    simp only [minOk_iff_admits]
    exact ListAux.forall_mem_iff_of_least (r := fun m x => m.le x = true) (minOf_least (wf_sameCoarse hwf) hm)
      admitsMin_mono

theorem spec_max {cfg : Cfg} {c : Column} (hwf : c.WF = true) {detect : Bool} {b : Val}
    {p : Precision} : verifyOn cfg c detect (.max (some b) p) = true ↔ Sat cfg c (.max (some b) p) := by
  simp only [verifyOn, Sat, calcMax]
  cases hm : maxOf c.nonNull with
  | none => simp [maxOf_eq_none.mp hm]
  | some m =>
    simp only [maxOk_iff_admits]
    exact ListAux.forall_mem_iff_of_least (r := fun m x => x.le m = true) (maxOf_greatest (wf_sameCoarse hwf) hm)
      admitsMax_mono

theorem signOk_ends {s : Sign} {m M : Val} {a b : Rat} (ha : m.num = some a) (hb : M.num = some b)
    (hab : a ≤ b) : signOk s m M = true ↔ SignHolds s a ∧ SignHolds s b := by
  -- each class is tested at the end that decides it; the other end follows from `a ≤ b`
  cases s <;> simp only [signOk, ha, hb, SignHolds, decide_eq_true_eq, Bool.and_eq_true, beq_iff_eq, gt_iff_lt,
    ge_iff_le, Bool.false_eq_true, false_and]
  · exact ⟨fun h => ⟨h, Std.lt_of_lt_of_le h hab⟩, And.left⟩
  · exact ⟨fun h => ⟨h, Rat.le_trans h hab⟩, And.left⟩
  · exact ⟨fun h => ⟨Rat.le_trans hab h, h⟩, And.right⟩
  · exact ⟨fun h => ⟨Std.lt_of_le_of_lt hab h, h⟩, And.right⟩

theorem signOk_iff {s : Sign} {l : List Val} (hs : SameCoarse l) {m M : Val}
    (hm : minOf l = some m) (hM : maxOf l = some M) :
    signOk s m M = true ↔ ∀ v ∈ l, ∃ q, v.num = some q ∧ SignHolds s q := by
  cases ha : m.num with
  | none =>
    refine iff_of_false (by simp [signOk, ha]) fun h => ?_
    obtain ⟨q, hq, _⟩ := h m (minOf_mem hm)
    cases ha.symm.trans hq
  | some a =>
    obtain ⟨b, hb, hab, _⟩ := num_between hs hm hM ha
    rw [signOk_ends ha hb hab, all_signHolds_iff hs hm hM ha hb]

theorem spec_sign {cfg : Cfg} {c : Column} (hwf : c.WF = true) {detect : Bool} {s : Sign} :
    verifyOn cfg c detect (.sign (some s)) = true ↔ Sat cfg c (.sign (some s)) := by
  simp only [verifyOn, Sat, calcMin, calcMax]
  cases hm : minOf c.nonNull with
  | none => simp [minOf_eq_none.mp hm]
  | some m =>
    cases hM : maxOf c.nonNull with
    | none => simpa [hm, hM] using minOf_isSome_iff_maxOf c.nonNull
    | some M => exact signOk_iff (wf_sameCoarse hwf) hm hM

theorem string_guard {ft : FType} {b : Bool} {P : Prop} (h : ft = .string → (b = true ↔ P)) :
    (if ft != .string then false else b) = true ↔ ft = .string ∧ P := by
  by_cases hf : ft = .string
  · simp [hf, h hf]
  · simp [hf]

theorem forall_strLens (c : Column) (P : Nat → Prop) :
    (∀ n ∈ strLens c, P n) ↔ ∀ v ∈ c.nonNull, ∀ x, v = .s x → P x.length := by
  simp only [strLens_eq, mem_lensOf]
  exact ⟨fun h v hv x hx => h _ ⟨x, hx ▸ hv, rfl⟩, fun h n ⟨x, hx, hn⟩ => hn ▸ h _ hx x rfl⟩

theorem spec_minLength {cfg : Cfg} {c : Column} {detect : Bool} {n : Int} :
    verifyOn cfg c detect (.minLength (some n)) = true ↔ Sat cfg c (.minLength (some n)) := by
  simp only [verifyOn, Sat, calcMinLength, ← forall_strLens c (n ≤ ·)]
  refine string_guard fun _ => ?_
  cases hm : listMin (strLens c) with
  | none => simp [listMin_eq_none.mp hm]
  | some m =>
    simp only [decide_eq_true_eq]
    exact ListAux.forall_mem_iff_of_least (P := fun k : Nat => n ≤ k) (listMin_least hm) fun hx h => by omega

theorem spec_maxLength {cfg : Cfg} {c : Column} {detect : Bool} {n : Int} :
    verifyOn cfg c detect (.maxLength (some n)) = true ↔ Sat cfg c (.maxLength (some n)) := by
  simp only [verifyOn, Sat, calcMaxLength, ← forall_strLens c (· ≤ n)]
  refine string_guard fun _ => ?_
  cases hm : listMax (strLens c) with
  | none => simp [listMax_eq_none.mp hm]
  | some m =>
    simp only [decide_eq_true_eq]
    exact ListAux.forall_mem_iff_of_least (P := fun k : Nat => (k : Int) ≤ n) (r := (· ≥ ·)) (listMax_greatest hm)
      fun hx h => by omega

theorem nonInteger_zero_iff (c : Column) :
    (calcNonIntegerCount c == 0) = true ↔ ∀ v ∈ c.nonNull, ∀ q, v = Val.r q → q.den = 1 := by
  unfold calcNonIntegerCount
  rw [beq_iff_eq, List.length_eq_zero_iff, List.filter_eq_nil_iff]
  refine forall₂_congr fun v _ => ?_
  cases v <;> simp [Rat.isWhole]

theorem allBoolean_iff (c : Column) :
    calcAllNonNullsBoolean c = true ↔ ∀ v ∈ c.nonNull, ∃ b, v = Val.b b := by
  unfold calcAllNonNullsBoolean
  rw [List.all_eq_true]
  refine forall₂_congr fun v _ => ?_
  cases v <;> simp

theorem spec_type {cfg : Cfg} {c : Column} {detect : Bool} {ts : List FType} :
    verifyOn cfg c detect (.type (some ts)) = true ↔ Sat cfg c (.type (some ts)) := by
  simp only [verifyOn, Sat, ← nonInteger_zero_iff, ← allBoolean_iff, List.contains_iff_mem,
    Bool.and_eq_true, beq_iff_eq, Bool.ite_eq_true_distrib, Bool.false_eq_true]
  -- `int` and `bool` in `ts` put a real column to the same test, hence one disjunct of `Sat`; left is the `if` cascade
  grind

theorem spec_maxNulls {cfg : Cfg} {c : Column} {detect : Bool} {n : Int} :
    verifyOn cfg c detect (.maxNulls (some n)) = true ↔ Sat cfg c (.maxNulls (some n)) := by
  simp only [verifyOn, Sat, nullCells_eq, decide_eq_true_eq]

theorem spec_noDup {cfg : Cfg} {c : Column} {detect : Bool} :
    verifyOn cfg c detect (.noDuplicates (some true)) = true ↔ Sat cfg c (.noDuplicates (some true)) := by
  simp only [verifyOn, Sat, calcNunique, calcNonNullCount, beq_iff_eq]
  exact dedup_length_eq_iff

theorem spec_allowed {cfg : Cfg} {c : Column} {detect : Bool} {vs : List Val} :
    verifyOn cfg c detect (.allowedValues (some vs)) = true ↔ Sat cfg c (.allowedValues (some vs)) := by
  simp only [verifyOn, Sat]
  split
  · -- more distinct values than allowed ones: refused unseen, and rightly, since some value finds no match
    rename_i hcond
    have hlt : vs.length < (dedup c.nonNull).length := (by simpa [calcNunique] using hcond : _ ∧ _).2
    refine iff_of_false Bool.false_ne_true fun h => ?_
    have := length_le_of_matched (dedup_pairwise _) fun u hu => h u (mem_of_mem_dedup hu)
    omega
  · simp only [List.all_eq_true, List.any_eq_true]
    exact forall_mem_dedup (fun u v huv ⟨a, ha, hau⟩ => ⟨a, ha, eqv_trans hau huv⟩) _

theorem spec_rex {cfg : Cfg} {c : Column} {detect : Bool} {rs : List Nat} :
    verifyOn cfg c detect (.rex (some rs)) = true ↔ Sat cfg c (.rex (some rs)) := by
  simp only [verifyOn, Sat]
  refine string_guard fun _ => ?_
  rw [List.all_eq_true]
  refine forall₂_congr fun v _ => ?_
  cases v <;> simp

theorem verify_eq_spec (cfg : Cfg) (heps : 0 ≤ cfg.epsilon) (c : Column) (hwf : c.WF = true)
    (detect : Bool) (k : Constraint) : verifyOn cfg c detect k = true ↔ Sat cfg c k :=
  have _ := heps  -- not needed: the equivalence holds for every ε
  match k with
  | .type none | .min none _ | .max none _ | .minLength none | .maxLength none | .sign none
  | .maxNulls none | .noDuplicates none | .noDuplicates (some false) | .allowedValues none
  | .rex none => iff_of_true rfl trivial
  | .type (some _) => spec_type
  | .min (some _) _ => spec_min hwf
  | .max (some _) _ => spec_max hwf
  | .minLength (some _) => spec_minLength
  | .maxLength (some _) => spec_maxLength
  | .sign (some _) => spec_sign hwf
  | .maxNulls (some _) => spec_maxNulls
  | .noDuplicates (some true) => spec_noDup
  | .allowedValues (some _) => spec_allowed
  | .rex (some _) => spec_rex

theorem verifyOn_detect (cfg : Cfg) (c : Column) (k : Constraint) : verifyOn cfg c true k = verifyOn cfg c false k := by
  cases k with
  | allowedValues vs =>
    cases vs with
    | none => rfl
    | some _ => exact Bool.eq_iff_iff.mpr (spec_allowed.trans spec_allowed.symm)
  | noDuplicates o => rcases o with _ | _ | _ <;> rfl
  | type o | minLength o | maxLength o | sign o | maxNulls o | rex o | min o _ | max o _ => cases o <;> rfl

theorem verify_flag_irrelevant (cfg : Cfg) (heps : 0 ≤ cfg.epsilon) (c : Column) (hwf : c.WF = true)
    (k : Constraint) : verifyOn cfg c true k = verifyOn cfg c false k :=
  have _ := heps; have _ := hwf  -- not needed
  verifyOn_detect cfg c k

theorem missing_field_fails (cfg : Cfg) (frame : List Column) (f : List Char) (detect : Bool)
    (k : Constraint) (h : findCol frame f = none) : verifyOne cfg frame f detect k = false := by
  simp [verifyOne, h]

theorem null_value_passes (cfg : Cfg) (c : Column) (detect : Bool) (k : Constraint)
    (h : isNullC k = true) : verifyOn cfg c detect k = true := by
  cases k with
  | type v | minLength v | maxLength v | sign v | maxNulls v | noDuplicates v | allowedValues v | rex v =>
    cases v with
    | none => rfl
    | some _ => cases h
  | min v p | max v p =>
    cases v with
    | none => rfl
    | some _ => cases h

theorem countTrue_add_countFalse (l : List Bool) : countTrue l + countFalse l = l.length := by
  simp [countTrue, countFalse, List.length_eq_countP_add_countP id (l := l), List.countP_eq_length_filter]

theorem totals_exact (cfg : Cfg) (frame : List Column) (detect : Bool)
    (cs : List (List Char × List Constraint)) :
    let v := verifyAll cfg frame detect cs
    (∀ f ∈ v.fields, f.passes = countTrue f.verdicts ∧ f.failures = countFalse f.verdicts ∧
                      f.passes + f.failures = f.verdicts.length) ∧
    v.passes = countTrue (v.fields.map (·.verdicts)).flatten ∧
    v.failures = countFalse (v.fields.map (·.verdicts)).flatten ∧
    v.fields.map (·.field) = cs.map (·.1) ∧
    v.fields.map (·.verdicts.length) = cs.map (·.2.length) := by
  refine ⟨?_, ?_, ?_, ?_, ?_⟩
  · intro f hf
    obtain ⟨fc, _, rfl⟩ := List.mem_map.mp hf
    exact ⟨rfl, rfl, countTrue_add_countFalse _⟩
  · simp only [verifyAll, countTrue, ← List.countP_eq_length_filter, List.countP_flatten, List.map_map]; rfl
  · simp only [verifyAll, countFalse, ← List.countP_eq_length_filter, List.countP_flatten, List.map_map]; rfl
  · simp only [verifyAll, List.map_map]; rfl
  · simp [verifyAll]

theorem verdicts_eq (cfg : Cfg) (frame : List Column) (detect : Bool)
    (cs : List (List Char × List Constraint)) :
    (verifyAll cfg frame detect cs).fields.map (·.verdicts)
      = cs.map (fun fc => fc.2.map (verifyOne cfg frame fc.1 detect)) := by
  simp only [verifyAll, List.map_map]
  rfl

theorem null_constraint_inert (cfg : Cfg) (frame : List Column) (detect : Bool)
    (pre post : List (List Char × List Constraint)) (f : List Char) (ks : List Constraint)
    (k : Constraint) (hk : isNullC k = true) (hf : (findCol frame f).isSome = true) :
    let v := verifyAll cfg frame detect (pre ++ (f, ks) :: post)
    let v' := verifyAll cfg frame detect (pre ++ (f, ks ++ [k]) :: post)
    v'.passes = v.passes + 1 ∧ v'.failures = v.failures ∧ verifyOne cfg frame f detect k = true := by
  have hone : verifyOne cfg frame f detect k = true := by
    obtain ⟨c, hc⟩ := Option.isSome_iff_exists.mp hf
    rw [verifyOne, hc]
    exact null_value_passes cfg c detect k hk
  simp only [verifyAll, countTrue, countFalse, List.map_append, List.map_cons, List.map_nil, List.sum_append,
    List.sum_cons, List.filter_append, List.length_append, hone]
  exact ⟨by simp +arith, by simp, trivial⟩

end TddaVerif.Props.C02.Lemmas
