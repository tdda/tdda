/-
C10. The regeneration table after a history of `set_regeneration` calls, from one step equation (`lookupKind_set`);
universal newlines leave the lines and are idempotent; the three assertions leave the reference alone in normal mode and
pass after a regeneration.
-/
import TddaVerif.Model.Regen
import TddaVerif.Props.C19Spec
import TddaVerif.Lemmas.CheckStrings
import TddaVerif.Lemmas.PyText

namespace TddaVerif.Props.C10.Lemmas
open TddaVerif.Py TddaVerif.RefTestCase TddaVerif.CheckStrings TddaVerif.Regen

theorem lookupKind_set (t : RegenTable) (kind k : Option Arg) (v : Bool) :
    lookupKind (setRegeneration t kind v) k = if kind == k then some v else lookupKind t k := by
  unfold lookupKind setRegeneration
  by_cases hk : kind = k
  · simp [hk]
  · have hb : (kind == k) = false := by simpa using hk
    simp only [List.find?_cons, hb, Bool.false_eq_true, if_false, List.find?_filter]
    -- the filter removes no entry for `k`
    congr 2
    funext kv
    by_cases h2 : kv.1 = k
    · subst h2; simp [Ne.symm hk]
    · simp [h2]

theorem applySets_cons (t : RegenTable) (op : Option Arg × Bool) (ops : List (Option Arg × Bool)) :
    applySets t (op :: ops) = applySets (setRegeneration t op.1 op.2) ops := rfl

/- The `match` stays in this statement: the statement of `shouldRegenerate_history` below has one of the same shape,
   and Lean gives it the matcher of the first declaration of the module that has one (`lookupKind_applySets.match_1`). -/
theorem lookupKind_applySets (ops : List (Option Arg × Bool)) (k : Option Arg) (t : RegenTable) :
    lookupKind (applySets t ops) k =
      match ops.reverse.find? (fun op => op.1 == k) with
      | some op => some op.2
      | none => lookupKind t k := by
  induction ops generalizing t with
  | nil => rfl
  | cons op ops ih =>
    rw [applySets_cons, ih, lookupKind_set, List.reverse_cons, List.find?_append]
    cases ops.reverse.find? (fun op => op.1 == k) <;> by_cases h : op.1 == k <;> simp [h]

theorem shouldRegenerate_eq (t : RegenTable) (kind : Option Arg) :
    shouldRegenerate t kind = ((lookupKind t kind).or (lookupKind t none)).getD false := by
  unfold shouldRegenerate
  cases h : lookupKind t kind <;> simp [h]

theorem shouldRegenerate_history (ops : List (Option Arg × Bool)) (kind : Option Arg) :
    shouldRegenerate (applySets [] ops) kind =
      match (ops.reverse.find? (fun op => op.1 == kind)) with
      | some op => op.2
      | none => match (ops.reverse.find? (fun op => op.1 == none)) with
                | some op => op.2
                | none => false := by
  rw [shouldRegenerate_eq, lookupKind_applySets, lookupKind_applySets]
  cases ops.reverse.find? (·.1 == kind) <;> cases ops.reverse.find? (·.1 == none) <;> rfl

theorem lookupKind_all_true (r : List (Option Arg)) (k : Option Arg) (t : RegenTable) :
    lookupKind (applySets t (r.map (·, true))) k = if r.contains k then some true else lookupKind t k := by
  induction r generalizing t with
  | nil => rfl
  | cons x r ih =>
    rw [List.map_cons, applySets_cons, ih, lookupKind_set, List.contains_cons]
    by_cases h : x = k
    · simp [h]
    · simp [h, Ne.symm h]

theorem regen_all_true (r : List (Option Arg)) (kind : Option Arg) :
    shouldRegenerate (applySets [] (r.map (fun x => (x, true)))) kind
      = (r.contains kind || r.contains none) := by
  rw [shouldRegenerate_eq, lookupKind_all_true, lookupKind_all_true]
  cases r.contains kind <;> cases r.contains none <;> rfl

theorem write_only_named (kinds : List Arg) (k : Arg) :
    shouldRegenerate (applySets [] (kinds.map (fun x => (some x, true)))) (some k) = kinds.contains k := by
  simpa [Function.comp_def, List.contains_eq_mem] using regen_all_true (kinds.map some) (some k)

theorem regen_from_cmdline (c : Props.C19.Cmd) (k : Arg) :
    shouldRegenerate (applySets [] (c.meaning.regen.map (fun x => (x, true)))) (some k)
      = (c.meaning.regen.contains (some k) || c.meaning.regen.contains none) :=
  regen_all_true _ _

theorem universal_cons_ne {c : Char} {cs : Line} (h : c ≠ '\r') :
    universal (c :: cs) = c :: universal cs := by
  rw [universal]
  · simp [h]
  · intro cs' hc; exact absurd hc h

theorem universal_cr (cs : Line) (h : ∀ cs', cs ≠ '\n' :: cs') :
    universal ('\r' :: cs) = '\n' :: universal cs := by
  rw [universal]
  · rfl
  · intro cs' _ hc; exact h cs' hc

theorem universal_crlf (cs : Line) : universal ('\r' :: '\n' :: cs) = '\n' :: universal cs := by
  rw [universal]

theorem splitlinesAux_universal (s : Line) (cur : Line) :
    splitlinesAux (universal s) cur false = splitlinesAux s cur false := by
  have hn : isLineBreak '\n' = true := by decide
  have hr : isLineBreak '\r' = true := by decide
  fun_induction universal s generalizing cur with
  | case1 => rfl
  | case2 cs ih => simp [splitlinesAux, hn, hr, ih]
  | case3 c cs hne ih =>
    by_cases hc : c = '\r'
    · subst hc
      simp [splitlinesAux, hn, hr, ih, splitlinesAux_afterCR _ _ fun cs' h => hne cs' rfl h]
    · simp [splitlinesAux, show (c == '\r') = false by simpa using hc, ih]

theorem splitlines_universal (s : Line) : splitlines (universal s) = splitlines s :=
  splitlinesAux_universal s []

theorem universal_no_cr (s : Line) : '\r' ∉ universal s := by
  fun_induction universal s with
  | case1 => simp
  | case2 cs ih => simpa using ih
  | case3 c cs _ ih => by_cases hc : c = '\r' <;> simp [hc, ih, Ne.symm]

theorem universal_of_no_cr (t : Line) (h : '\r' ∉ t) : universal t = t := by
  induction t with
  | nil => rfl
  | cons c cs ih =>
    rw [List.mem_cons, not_or] at h
    rw [universal_cons_ne (Ne.symm h.1), ih h.2]

theorem universal_idem (s : Line) : universal (universal s) = universal s :=
  universal_of_no_cr _ (universal_no_cr s)

theorem normal_mode_readonly_string (t : RegenTable) (kind : Option Arg) (o : Opts) (pat : PatFn)
    (actual : Line) (ref : Option Line) (h : shouldRegenerate t kind = false) :
    (assertString t kind o pat actual ref).ref = ref ∧
    (assertString t kind o pat actual ref).outcome ≠ .regenerated := by
  unfold assertString
  cases ref with
  | none => simp [h]
  | some r => simp only [h, Bool.false_eq_true, if_false]; refine ⟨trivial, ?_⟩; split <;> simp

theorem normal_mode_readonly_textfile (t : RegenTable) (kind : Option Arg) (o : Opts) (pat : PatFn)
    (actual : Line) (ref : Option Line) (h : shouldRegenerate t kind = false) :
    (assertTextFile t kind o pat actual ref).ref = ref ∧
    (assertTextFile t kind o pat actual ref).outcome ≠ .regenerated := by
  unfold assertTextFile
  cases ref with
  | none => simp [h]
  | some r => simp only [h, Bool.false_eq_true, if_false]; refine ⟨trivial, ?_⟩; split <;> simp

theorem normal_mode_readonly_binary (t : RegenTable) (kind : Option Arg)
    (actual : List Nat) (ref : Option (List Nat)) (h : shouldRegenerate t kind = false) :
    (assertBinaryFile t kind actual ref).ref = ref ∧
    (assertBinaryFile t kind actual ref).outcome ≠ .regenerated := by
  unfold assertBinaryFile
  cases ref with
  | none => simp [h]
  | some r => simp only [h, Bool.false_eq_true, if_false]; refine ⟨trivial, ?_⟩; split <;> simp

theorem regenerate_then_pass_string (t t' : RegenTable) (kind : Option Arg) (o : Opts) (pat : PatFn)
    (actual : Line) (ref : Option Line)
    (h : shouldRegenerate t kind = true) (h' : shouldRegenerate t' kind = false) :
    (assertString t' kind o pat actual (assertString t kind o pat actual ref).ref).outcome = .passed := by
  simp [assertString, h, h', splitlines_universal, C04.Lemmas.identical_passes]

theorem regenerate_then_pass_textfile (t t' : RegenTable) (kind : Option Arg) (o : Opts) (pat : PatFn)
    (actual : Line) (ref : Option Line)
    (h : shouldRegenerate t kind = true) (h' : shouldRegenerate t' kind = false) :
    (assertTextFile t' kind o pat actual (assertTextFile t kind o pat actual ref).ref).outcome = .passed := by
  simp [assertTextFile, h, h', universal_idem, C04.Lemmas.identical_passes]

theorem regenerate_then_pass_binary (t t' : RegenTable) (kind : Option Arg)
    (actual : List Nat) (ref : Option (List Nat))
    (h : shouldRegenerate t kind = true) (h' : shouldRegenerate t' kind = false) :
    (assertBinaryFile t' kind actual (assertBinaryFile t kind actual ref).ref).outcome = .passed := by
  simp [assertBinaryFile, h, h']

end TddaVerif.Props.C10.Lemmas
