/- What `discoverField` returns (`discover_eq`), in two steps: the code cut into named parts
   (`discover_parts`, by unfolding), then each part in closed form (`boundPart_eq` .. `rexPart_eq`; no
   hypothesis on the column is needed).  The closed form `discovered` carries the constructor of every
   part outermost, so membership of a constraint of one kind is read off by `simp` (`mem_type` .. `mem_rex`). -/
import TddaVerif.Lemmas.Aggregates

namespace TddaVerif.Constraints.DiscAux
open TddaVerif.Constraints TddaVerif.Constraints.Order TddaVerif.Props.C02

theorem lt_irrefl (a : Val) : a.lt a = false := Order.lt_irrefl a

/- The parts are the local definitions of `discoverField` word for word, so that `discover_parts` holds by `rfl`
   once its two tests in front (an unrecognised type, no records) are decided. -/

def nUniq (c : Column) : Int := if c.ftype != .real then calcNunique c else -1

def uniqs0 (c : Column) : Option (List Val) :=
  if c.ftype == .string && nUniq c ≤ maxCategories then some (calcUniques c) else none

def uniqs (c : Column) : Option (List Val) :=
  if calcNonNullCount c > 0 && c.ftype == .string && (uniqs0 c).isNone && nUniq c > 0 then some (calcUniques c)
  else uniqs0 c

def nonStr (c : Column) : Bool := calcNonNullCount c > 0 && c.ftype != .string

def boundPart (c : Column) (o : Option Val) (K : Val → Constraint) : List Constraint :=
  if nonStr c then (match o with | some v => [K v] | none => []) else []

def lengthPart (c : Column) : List Constraint :=
  if calcNonNullCount c > 0 && c.ftype == .string then
    (match uniqs c with
     | some (u :: us) =>
       (match listMin (lensOf (u :: us)), listMax (lensOf (u :: us)) with
        | some m, some M => [Constraint.minLength (some m), Constraint.maxLength (some M)]
        | _, _ => [])
     | _ => [])
  else []

def signList (p q : Option Rat) : List Constraint :=
  match p, q with
  | some x, some y =>
    if x == 0 && y == 0 then [Constraint.sign (some .zero)]
    else if x ≥ 0 then [Constraint.sign (some (if x > 0 then .positive else .nonNegative))]
    else if y ≤ 0 then [Constraint.sign (some (if y < 0 then .negative else .nonPositive))]
    else []
  | _, _ => []

def signPart (c : Column) : List Constraint :=
  if nonStr c && c.ftype != .date then
    (match calcMin c, calcMax c with
     | some a, some b => signList a.num b.num
     | none, _ => [Constraint.sign (some .null)]
     | _, _ => [])
  else []

def noDupPart (c : Column) : List Constraint :=
  if nUniq c == (calcNonNullCount c : Int) && nUniq c > 1 && c.ftype != .real
  then [Constraint.noDuplicates (some true)] else []

def allowedPart (c : Column) : List Constraint :=
  match uniqs0 c with
  | some (u :: us) => [Constraint.allowedValues (some (u :: us))]
  | _ => []

def rexPart (incRex : Bool) (rexOf : List Val → List Nat) (c : Column) : List Constraint :=
  if c.ftype == .string && incRex then [.rex (some (rexOf ((uniqs c).getD [])))] else []

/-- what discovery returns when it is told that there are no records -/
def discovered0 (incRex : Bool) (rexOf : List Val → List Nat) (c : Column) : List Constraint :=
  .type (some [c.ftype]) :: (if c.ftype == .string && incRex then [.rex (some (rexOf []))] else [])

theorem discover_parts (incRex : Bool) (rexOf : List Val → List Nat) (c : Column) (n : Nat) :
    discoverField incRex rexOf c n = .ok (if c.ftype = .other then none else some (
      if n = 0 then discovered0 incRex rexOf c
      else
        .type (some [c.ftype]) :: (boundPart c (minOf c.nonNull) (fun m => .min (some m) .fuzzy) ++
          boundPart c (maxOf c.nonNull) (fun m => .max (some m) .fuzzy) ++ lengthPart c ++ signPart c ++
          (if calcNullCount c < 2 then [.maxNulls (some (calcNullCount c))] else []) ++ noDupPart c ++
          allowedPart c ++ rexPart incRex rexOf c))) := by
  unfold discoverField
  by_cases ho : c.ftype = .other
  · simp [ho]
  · rw [if_neg (by simpa using ho), if_neg ho]
    -- the test on the number of records, from under the `let` in front of it
    show (if n == 0 then _ else _) = _
    by_cases hn : n = 0
    · rw [if_pos (by simpa using hn), if_pos hn]; rfl
    · rw [if_neg (by simpa using hn), if_neg hn]; rfl

theorem nonStr_iff (c : Column) : nonStr c = true ↔ c.nonNull ≠ [] ∧ c.ftype ≠ .string := by
  simp [nonStr, calcNonNullCount, List.length_pos_iff]

/-- the sign class read off the least value `x` and the greatest value `y` -/
def signOf (x y : Rat) : Option Sign :=
  if x == 0 && y == 0 then some .zero
  else if x ≥ 0 then some (if x > 0 then .positive else .nonNegative)
  else if y ≤ 0 then some (if y < 0 then .negative else .nonPositive)
  else none

def discoveredSign (c : Column) : Option Sign :=
  (minOf c.nonNull).bind fun a => (maxOf c.nonNull).bind fun b =>
    a.num.bind fun x => b.num.bind fun y => signOf x y

theorem discoveredSign_eq {c : Column} {a b : Val} {x y : Rat} (ha : minOf c.nonNull = some a)
    (hb : maxOf c.nonNull = some b) (hx : a.num = some x) (hy : b.num = some y) : discoveredSign c = signOf x y := by
  simp [discoveredSign, ha, hb, hx, hy]

theorem discoveredSign_eq_some {c : Column} {s : Sign} : discoveredSign c = some s ↔
    ∃ a, minOf c.nonNull = some a ∧ ∃ b, maxOf c.nonNull = some b ∧
      ∃ x, a.num = some x ∧ ∃ y, b.num = some y ∧ signOf x y = some s := by
  simp only [discoveredSign, Option.bind_eq_some_iff]

/-- What discovery returns for a column of a recognised type with at least one record (`discover_eq`), in the
    order in which discover_field_constraints lists its constraints. -/
def discovered (incRex : Bool) (rexOf : List Val → List Nat) (c : Column) : List Constraint :=
  .type (some [c.ftype]) ::
    ((if c.ftype = .string then [] else (minOf c.nonNull).toList.map (fun m => .min (some m) .fuzzy)) ++
     (if c.ftype = .string then [] else (maxOf c.nonNull).toList.map (fun m => .max (some m) .fuzzy)) ++
     (if c.ftype = .string then
        (listMin (lensOf (calcUniques c))).toList.map (fun m => .minLength (some (m : Int))) ++
        (listMax (lensOf (calcUniques c))).toList.map (fun m => .maxLength (some (m : Int)))
      else []) ++
     (if c.ftype = .string ∨ c.ftype = .date then [] else (discoveredSign c).toList.map (fun s => .sign (some s))) ++
     (if nullCells c < 2 then [.maxNulls (some (nullCells c : Int))] else []) ++
     (if c.ftype ≠ .real ∧ 1 < c.nonNull.length ∧ (dedup c.nonNull).length = c.nonNull.length
      then [.noDuplicates (some true)] else []) ++
     (if c.ftype = .string ∧ calcUniques c ≠ [] ∧ (calcUniques c).length ≤ maxCategories
      then [.allowedValues (some (calcUniques c))] else []) ++
     (if c.ftype = .string ∧ incRex = true then [.rex (some (rexOf (calcUniques c)))] else []))

theorem boundPart_eq {c : Column} {o : Option Val} {K : Val → Constraint} (ho : c.nonNull = [] → o = none) :
    boundPart c o K = if c.ftype = .string then [] else o.toList.map K := by
  unfold boundPart
  cases o with
  | none => simp
  | some m =>
    have : c.nonNull ≠ [] := fun h => by cases ho h
    by_cases hs : c.ftype = .string <;> simp [nonStr_iff, this, hs]

theorem calcUniques_length (c : Column) : (calcUniques c).length = calcNunique c :=
  (sortVals_perm _).length_eq

theorem calcUniques_eq_nil {c : Column} : calcUniques c = [] ↔ c.nonNull = [] := by
  rw [← List.length_eq_zero_iff, calcUniques_length, calcNunique, List.length_eq_zero_iff, dedup_eq_nil]

theorem uniqs_string {c : Column} (hs : c.ftype = .string) : uniqs c = some (calcUniques c) := by
  unfold uniqs uniqs0 nUniq
  by_cases h20 : (calcNunique c : Int) ≤ maxCategories
  · simp [hs, h20]
  · have : 0 < calcNunique c := by simp only [maxCategories] at h20; omega
    have : c.nonNull ≠ [] := mt calcUniques_eq_nil.mpr (List.ne_nil_of_length_pos (calcUniques_length c ▸ this))
    simp [calcNonNullCount, List.length_pos_iff, *]

theorem lengthPart_eq (c : Column) : lengthPart c =
    if c.ftype = .string then
      (listMin (lensOf (calcUniques c))).toList.map (fun m => .minLength (some (m : Int))) ++
      (listMax (lensOf (calcUniques c))).toList.map (fun m => .maxLength (some (m : Int)))
    else [] := by
  unfold lengthPart
  by_cases hs : c.ftype = .string
  · rw [uniqs_string hs]
    cases hu : calcUniques c with
    | nil => simp [hs, lensOf, listMin, listMax]
    | cons u us =>
      have : c.nonNull ≠ [] := mt calcUniques_eq_nil.mpr (hu ▸ List.cons_ne_nil u us)
      simp only [hs, calcNonNullCount, List.length_pos_iff.mpr this, if_true, decide_true, Bool.and_self,
        beq_self_eq_true]
      cases hl : lensOf (u :: us) with
      | nil => simp [listMin, listMax]
      | cons x xs =>
        -- on a non-empty list `listMin` and `listMax` are both `some`, so the default arm of the `match` is dead
        simp only [listMin, listMax]; cases listMin xs <;> cases listMax xs <;> rfl
  · simp [hs]

theorem signList_eq (p q : Option Rat) :
    signList p q = (p.bind fun x => q.bind fun y => signOf x y).toList.map fun s => .sign (some s) := by
  cases p <;> cases q <;> try rfl
  simp only [signList, signOf, Option.bind_some, apply_ite Option.toList,
    apply_ite (List.map fun s => Constraint.sign (some s)), Option.toList_some, Option.toList_none,
    List.map_cons, List.map_nil]

theorem signPart_eq (c : Column) : signPart c =
    if c.ftype = .string ∨ c.ftype = .date then [] else (discoveredSign c).toList.map (fun s => .sign (some s)) := by
  unfold signPart discoveredSign calcMin calcMax
  cases ha : minOf c.nonNull with
  | none => simp [nonStr_iff, minOf_eq_none.mp ha]
  | some a =>
    cases hb : maxOf c.nonNull with
    | none => simp  -- cannot arise (`minOf_isSome_iff_maxOf`), and both sides are empty
    | some b =>
      have hn : nonStr c = (c.ftype != .string) :=
        Bool.eq_iff_iff.mpr (by simp [nonStr_iff, List.ne_nil_of_mem (minOf_mem ha)])
      simp only [signList_eq, Option.bind_some, hn]
      cases c.ftype <;> rfl

theorem noDupPart_eq (c : Column) : noDupPart c =
    if c.ftype ≠ .real ∧ 1 < c.nonNull.length ∧ (dedup c.nonNull).length = c.nonNull.length
    then [.noDuplicates (some true)] else [] := by
  unfold noDupPart nUniq calcNunique calcNonNullCount
  by_cases hr : c.ftype = .real
  · simp [hr]
  · simp only [bne_iff_ne, ne_eq, hr, not_false_eq_true, if_true, true_and]
    congr 1
    simp only [Bool.and_eq_true, beq_iff_eq, decide_eq_true_eq, eq_iff_iff, bne_iff_ne, ne_eq, hr,
      not_false_eq_true, and_true]
    -- the code says `d = n ∧ d > 1` in `Int` (`d` distinct among `n` values), the closed form `1 < n ∧ d = n` in `Nat`
    omega

theorem allowedPart_eq (c : Column) : allowedPart c =
    if c.ftype = .string ∧ calcUniques c ≠ [] ∧ (calcUniques c).length ≤ maxCategories
    then [.allowedValues (some (calcUniques c))] else [] := by
  unfold allowedPart uniqs0 nUniq
  by_cases hs : c.ftype = .string
  · simp only [hs, bne_iff_ne, ne_eq, reduceCtorEq, not_false_eq_true, if_true, beq_self_eq_true,
      Bool.true_and, decide_eq_true_eq, true_and, ← calcUniques_length, Int.ofNat_le]
    by_cases h20 : (calcUniques c).length ≤ maxCategories
    · rw [if_pos h20]
      cases hu : calcUniques c with
      | nil => simp
      | cons u us => rw [hu] at h20; simpa using h20
    · rw [if_neg h20]; simp [h20]
  · simp [hs]

theorem rexPart_eq (incRex : Bool) (rexOf : List Val → List Nat) (c : Column) : rexPart incRex rexOf c =
    if c.ftype = .string ∧ incRex = true then [.rex (some (rexOf (calcUniques c)))] else [] := by
  unfold rexPart
  by_cases hs : c.ftype = .string
  · simp [hs, uniqs_string hs]
  · simp [hs]

theorem discover_eq (incRex : Bool) (rexOf : List Val → List Nat) (c : Column) (n : Nat) :
    discoverField incRex rexOf c n = .ok (if c.ftype = .other then none else some (
      if n = 0 then discovered0 incRex rexOf c else discovered incRex rexOf c)) := by
  rw [discover_parts, boundPart_eq minOf_eq_none.mpr, boundPart_eq maxOf_eq_none.mpr,
    lengthPart_eq, signPart_eq, nullCells_eq, noDupPart_eq, allowedPart_eq, rexPart_eq, discovered]

theorem discover_ok {incRex : Bool} {rexOf : List Val → List Nat} {c : Column} {n : Nat} {ks : List Constraint}
    (h : discoverField incRex rexOf c n = .ok (some ks)) :
    ks = if n = 0 then discovered0 incRex rexOf c else discovered incRex rexOf c := by
  rw [discover_eq] at h
  split at h
  · cases h
  · injection h with h; injection h with h; exact h.symm

theorem discover_ok_pos {incRex : Bool} {rexOf : List Val → List Nat} {c : Column} {ks : List Constraint}
    (hn : 0 < c.cells.length)
    (h : discoverField incRex rexOf c c.cells.length = .ok (some ks)) : ks = discovered incRex rexOf c :=
  (discover_ok h).trans (if_neg (by omega))

section mem
variable {incRex : Bool} {rexOf : List Val → List Nat} {c : Column}

theorem mem_type {ts} : Constraint.type ts ∈ discovered incRex rexOf c ↔ ts = some [c.ftype] := by
  simp [discovered]

theorem mem_min {v p} : Constraint.min v p ∈ discovered incRex rexOf c ↔
    c.ftype ≠ .string ∧ ∃ m, minOf c.nonNull = some m ∧ v = some m ∧ p = .fuzzy := by
  simp [discovered, eq_comm (a := v), eq_comm (a := p)]

theorem mem_max {v p} : Constraint.max v p ∈ discovered incRex rexOf c ↔
    c.ftype ≠ .string ∧ ∃ m, maxOf c.nonNull = some m ∧ v = some m ∧ p = .fuzzy := by
  simp [discovered, eq_comm (a := v), eq_comm (a := p)]

theorem mem_minLength {v} : Constraint.minLength v ∈ discovered incRex rexOf c ↔
    c.ftype = .string ∧ ∃ m : Nat, listMin (lensOf (calcUniques c)) = some m ∧ v = some (m : Int) := by
  simp [discovered, eq_comm (a := v)]

theorem mem_maxLength {v} : Constraint.maxLength v ∈ discovered incRex rexOf c ↔
    c.ftype = .string ∧ ∃ m : Nat, listMax (lensOf (calcUniques c)) = some m ∧ v = some (m : Int) := by
  simp [discovered, eq_comm (a := v)]

theorem mem_sign {v} : Constraint.sign v ∈ discovered incRex rexOf c ↔
    ¬ (c.ftype = .string ∨ c.ftype = .date) ∧ ∃ s, discoveredSign c = some s ∧ v = some s := by
  simp [discovered, eq_comm (a := v)]

theorem mem_maxNulls {v} : Constraint.maxNulls v ∈ discovered incRex rexOf c ↔
    v = some (nullCells c : Int) ∧ nullCells c < 2 := by
  simp [discovered, and_comm]

theorem mem_noDup {v} : Constraint.noDuplicates v ∈ discovered incRex rexOf c ↔
    v = some true ∧ c.ftype ≠ .real ∧ 1 < c.nonNull.length ∧ (dedup c.nonNull).length = c.nonNull.length := by
  simp [discovered, and_comm]

theorem mem_allowed {v} : Constraint.allowedValues v ∈ discovered incRex rexOf c ↔
    c.ftype = .string ∧ v = some (calcUniques c) ∧ calcUniques c ≠ [] ∧ (calcUniques c).length ≤ maxCategories := by
  simp [discovered, and_assoc, and_comm]

theorem mem_rex {v} : Constraint.rex v ∈ discovered incRex rexOf c ↔
    c.ftype = .string ∧ incRex = true ∧ v = some (rexOf (calcUniques c)) := by
  simp [discovered, and_assoc]

end mem

theorem discover_ok_subset {incRex : Bool} {rexOf : List Val → List Nat} {c : Column} {ks : List Constraint}
    (h : discoverField incRex rexOf c c.cells.length = .ok (some ks)) : ks ⊆ discovered incRex rexOf c := by
  cases discover_ok h
  split
  · rename_i hn
    have hu : calcUniques c = [] :=
      calcUniques_eq_nil.mpr (by simp [Column.nonNull, List.length_eq_zero_iff.mp hn])
    rw [discovered0, List.cons_subset]
    refine ⟨mem_type.mpr rfl, ?_⟩
    split
    · rename_i hg
      simpa [mem_rex, hu] using hg
    · exact List.nil_subset _
  · exact List.Subset.refl _

end TddaVerif.Constraints.DiscAux
