/-
C15, the artefacts of a failed text assertion. What is planned: nothing after a pass, the raw actual only if it came as a
string (`plan_rawActual`). The markers: `firstDiff` and `commonPrefixLen` cut off a common prefix (`prefix_spec`). The
post-processed pair: `loop_spec`, the invariant of `reconstructLoop`, holds for any lists of removed and ignored positions
that mark what they should (`Marks`, `MarksIgnorable`); those `check_strings` hands over do (`remIdx_marks`,
`ignored_eq_canIgnore`).
-/
import TddaVerif.Lemmas.CheckStrings
import TddaVerif.Lemmas.ListAux

namespace TddaVerif.Props.C15.Lemmas
open TddaVerif.Py TddaVerif.CheckStrings TddaVerif.Props.C04

theorem pass_writes_nothing (o : Opts) (pat : PatFn) (a e : List Line) (gnl : Bool) (raw : Line)
    (h : (checkStrings o pat a e).failures = 0) :
    plan o (checkStrings o pat a e) gnl raw = { rawActual := none, diffActual := none, diffExpected := none } := by
  simp [plan, h]

theorem plan_rawActual (o : Opts) (r : Result) (gnl : Bool) (raw : Line) :
    (plan o r gnl raw).rawActual =
      if r.failures == 0 then none else if o.createTemporaries && !o.actualPath then some raw else none := by
  unfold plan
  split
  · rfl
  · rcases r.reconstruction with _ | ⟨ra, re⟩ <;> cases o.createTemporaries <;> rfl

theorem file_actual_not_rewritten (o : Opts) (pat : PatFn) (a e : List Line) (gnl : Bool) (raw : Line)
    (hs : o.actualPath = true) : (plan o (checkStrings o pat a e) gnl raw).rawActual = none := by
  simp [plan_rawActual, hs]

theorem raw_actual_content (o : Opts) (pat : PatFn) (a e : List Line) (gnl : Bool) (raw : Line)
    (hf : (checkStrings o pat a e).failures = 1) (hc : o.createTemporaries = true)
    (hs : o.actualPath = false) :
    (plan o (checkStrings o pat a e) gnl raw).rawActual = some raw := by
  simp [plan_rawActual, hf, hc, hs]

/-- `firstDiff` (on bytes) and `commonPrefixLen` (on characters) both obey the three equations -/
theorem prefix_spec {α} [BEq α] [LawfulBEq α] (f : List α → List α → Nat)
    (hc : ∀ x as y bs, f (x :: as) (y :: bs) = if x == y then f as bs + 1 else 0)
    (hl : ∀ b, f [] b = 0) (hr : ∀ a, f a [] = 0) (a b : List α) :
    ∃ p a' b', a = p ++ a' ∧ b = p ++ b' ∧ f a b = p.length ∧ (a'.head? ≠ b'.head? ∨ a' = [] ∨ b' = []) := by
  induction a generalizing b with
  | nil => exact ⟨[], [], b, rfl, rfl, hl b, .inr (.inl rfl)⟩
  | cons x as ih =>
    cases b with
    | nil => exact ⟨[], _, [], rfl, rfl, hr _, .inr (.inr rfl)⟩
    | cons y bs =>
      by_cases hxy : x = y
      · obtain ⟨p, a', b', rfl, rfl, hp, hn⟩ := ih bs
        exact ⟨x :: p, a', b', rfl, by rw [hxy]; rfl, by simp [hc, hxy, hp], hn⟩
      · exact ⟨[], _, _, rfl, rfl, by simp [hc, hxy], .inl (by simpa using hxy)⟩

theorem binary_offset_exact (a e : List Nat) :
    firstDiff a e ≤ min a.length e.length ∧
    (∀ i, i < firstDiff a e → a[i]? = e[i]?) ∧
    (firstDiff a e = min a.length e.length ∨ a[firstDiff a e]? ≠ e[firstDiff a e]?) := by
  obtain ⟨p, a', e', rfl, rfl, hp, hn⟩ :=
    prefix_spec firstDiff (fun _ _ _ _ => rfl) (fun _ => rfl) (fun a => by cases a <;> rfl) a e
  rw [hp]
  refine ⟨by simp, fun i hi => by rw [List.getElem?_append_left hi, List.getElem?_append_left hi], ?_⟩
  rcases hn with hn | rfl | rfl
  · exact .inr (by simpa [List.head?_eq_getElem?, List.getElem?_append_right] using hn)
  · exact .inl (by simp)
  · exact .inl (by simp)

theorem commonPrefixLen_spec (a b : Line) : ∃ p a' b', a = p ++ a' ∧ b = p ++ b' ∧ commonPrefixLen a b = p.length ∧
    (a'.head? ≠ b'.head? ∨ a' = [] ∨ b' = []) :=
  prefix_spec commonPrefixLen (fun _ _ _ _ => rfl) (fun _ => rfl) (fun a => by cases a <;> rfl) a b

theorem commonPrefixLen_reverse_spec (a b : Line) : ∃ a' b' s, a = a' ++ s ∧ b = b' ++ s ∧
    commonPrefixLen a.reverse b.reverse = s.length ∧ (a'.getLast? ≠ b'.getLast? ∨ a' = [] ∨ b' = []) := by
  obtain ⟨s, a', b', ha, hb, hs, hn⟩ := commonPrefixLen_spec a.reverse b.reverse
  exact ⟨a'.reverse, b'.reverse, s.reverse, by simp [← List.reverse_append, ← ha],
    by simp [← List.reverse_append, ← hb], by simpa using hs, by simpa using hn⟩

theorem diffMarker_self (l : Line) : diffMarker l l = l := by
  simp [diffMarker]

theorem diffMarker_shape (l r : Line) (h : l ≠ r) :
    ∃ pre ml mr suf, l = pre ++ ml ++ suf ∧ r = pre ++ mr ++ suf ∧
      diffMarker l r = pre ++ ['('] ++ ml ++ ['|'] ++ mr ++ [')'] ++ suf ∧
      (ml.head? ≠ mr.head? ∨ ml = [] ∨ mr = []) ∧
      (ml.getLast? ≠ mr.getLast? ∨ ml = [] ∨ mr = []) := by
  obtain ⟨pre, l', r', rfl, rfl, hpre, hhead⟩ := commonPrefixLen_spec l r
  obtain ⟨ml, mr, suf, rfl, rfl, hpost, hlast⟩ := commonPrefixLen_reverse_spec l' r'
  refine ⟨pre, ml, mr, suf, by simp, by simp, ?_, ?_, hlast⟩
  · have hne : (pre ++ (ml ++ suf) == pre ++ (mr ++ suf)) = false := by simpa using h
    have htake (m : Line) : (m ++ suf).take ((m ++ suf).length - suf.length) = m := by
      rw [List.length_append, Nat.add_sub_cancel, List.take_left]
    have hdrop : (pre ++ (ml ++ suf)).drop ((pre ++ (ml ++ suf)).length - suf.length) = suf := by
      rw [← List.append_assoc, List.length_append, Nat.add_sub_cancel, List.drop_left]
    simp only [diffMarker, hne, hpre, hpost, List.drop_left, List.take_left, htake, hdrop]
    cases suf <;> simp
  · rcases ml with _ | ⟨x, ml⟩
    · exact .inr (.inl rfl)
    rcases mr with _ | ⟨y, mr⟩
    · exact .inr (.inr rfl)
    exact .inl (by simpa using hhead)

/-- the after-removal list as computed by `checkStrings` -/
def after (o : Opts) (oa : List Line) : List Line :=
  if !o.removeLines.isEmpty then (survivorIdx o oa).map (fun i => oa.getD i []) else oa

theorem cs_actualAfter (o : Opts) (pat : PatFn) (a e : List Line) :
    (checkStrings o pat a e).actualAfter = after o (dropTrailingEmpty a) := rfl

def survivorsFrom (o : Opts) (l : List Line) (i : Nat) : List Line := (l.drop i).filter (survives o)

def Marks (o : Opts) (l : List Line) (rem : List Nat) : Prop :=
  ∀ i, rem.contains i = true ↔ ∃ h : i < l.length, removable o l[i] = true

theorem remIdx_marks (o : Opts) (l : List Line) : Marks o l (remIdx o l) := fun i => by
  unfold remIdx
  split
  · simp only [removalIdx, List.contains_iff_mem, List.mem_filter, List.mem_range]
    exact ⟨fun ⟨h, hr⟩ => ⟨h, by simpa [h] using hr⟩, fun ⟨h, hr⟩ => ⟨h, by simpa [h] using hr⟩⟩
  · rename_i h
    simp [removable_of_isEmpty h]

/-- `aIgn`, `eIgn` mark two lines that face each other and differ after stripping exactly when `canIgnore` excuses them -/
def MarksIgnorable (o : Opts) (pat : PatFn) (oa oe : List Line) (aIgn eIgn : List Nat) : Prop :=
  ∀ ia ie (ha : ia < oa.length) (he : ie < oe.length), removable o oa[ia] = false → removable o oe[ie] = false →
    (survivorsFrom o oa ia).length = (survivorsFrom o oe ie).length → normalize o oa[ia] ≠ normalize o oe[ie] →
    (aIgn.contains ia || eIgn.contains ie) = canIgnore o pat oa[ia] oe[ie]

theorem survivorsFrom_of_le {o : Opts} {l : List Line} {i : Nat} (h : l.length ≤ i) : survivorsFrom o l i = [] := by
  rw [survivorsFrom, List.drop_eq_nil_of_le h]; rfl

theorem survivorsFrom_of_removed {o : Opts} {l : List Line} {rem : List Nat} (hRem : Marks o l rem) {i : Nat}
    (h : rem.contains i = true) : i < l.length ∧ survivorsFrom o l i = survivorsFrom o l (i + 1) := by
  obtain ⟨hi, hr⟩ := (hRem i).mp h
  exact ⟨hi, by rw [survivorsFrom, List.drop_eq_getElem_cons hi, List.filter_cons, if_neg (by simp [hr])]; rfl⟩

theorem survivorsFrom_of_kept {o : Opts} {l : List Line} {rem : List Nat} (hRem : Marks o l rem) {i : Nat}
    (hi : i < l.length) (h : ¬rem.contains i = true) :
    removable o l[i] = false ∧ survivorsFrom o l i = l[i] :: survivorsFrom o l (i + 1) := by
  have hr : removable o l[i] = false := Bool.eq_false_iff.mpr fun hr => h ((hRem i).mpr ⟨hi, hr⟩)
  exact ⟨hr, by rw [survivorsFrom, List.drop_eq_getElem_cons hi, List.filter_cons, if_pos (by simp [hr])]; rfl⟩

theorem length_filter_eq_add_survivorsFrom (o : Opts) (l : List Line) (i : Nat) :
    (l.filter (survives o)).length = ((l.take i).filter (survives o)).length + (survivorsFrom o l i).length := by
  conv => lhs; rw [← List.take_append_drop i l]
  rw [List.filter_append, List.length_append, survivorsFrom]

/-- the unexcused pairs among the survivors `sa`, `se` still ahead, as the reconstruction shows them -/
def unexcusedAhead (o : Opts) (pat : PatFn) (sa se : List Line) : List (Line × Line) :=
  ((sa.zip se).filter fun p => !lineOKb o pat p.1 p.2).map fun p => (normalize o p.1, normalize o p.2)

theorem unexcusedAhead_zero (o : Opts) (pat : PatFn) (a e : List Line) :
    unexcusedAhead o pat (survivorsFrom o (dropTrailingEmpty a) 0) (survivorsFrom o (dropTrailingEmpty e) 0) =
      (badPairs o pat a e).map fun p => (normalize o p.1, normalize o p.2) := rfl

theorem unexcusedAhead_cons (o : Opts) (pat : PatFn) (a e : Line) (sa se : List Line) :
    unexcusedAhead o pat (a :: sa) (e :: se) =
      (if lineOKb o pat a e then [] else [(normalize o a, normalize o e)]) ++ unexcusedAhead o pat sa se := by
  rw [unexcusedAhead, List.zip_cons_cons, List.filter_cons]
  cases lineOKb o pat a e <;> rfl

abbrev differ : Line × Line → Bool := fun p => p.1 != p.2

def DifferOn (R : List Line × List Line) (D : List (Line × Line)) : Prop :=
  R.1.length = R.2.length ∧ (R.1.zip R.2).filter differ = D

section step
variable {R : List Line × List Line} {ra re : List Line} {D : List (Line × Line)}

theorem DifferOn.step {x y : Line} (hlen : ra.length = re.length)
    (h : DifferOn R (((ra ++ [x]).zip (re ++ [y])).filter differ ++ D)) :
    DifferOn R ((ra.zip re).filter differ ++ ((if x != y then [(x, y)] else []) ++ D)) := by
  rw [List.zip_append hlen, List.filter_append, List.append_assoc] at h
  exact (List.filter_cons : List.filter differ [(x, y)] = _) ▸ h

theorem DifferOn.step_same {m : Line} (hlen : ra.length = re.length)
    (h : DifferOn R (((ra ++ [m]).zip (re ++ [m])).filter differ ++ D)) : DifferOn R ((ra.zip re).filter differ ++ D) := by
  simpa using DifferOn.step hlen h

theorem DifferOn.step_cons {o : Opts} {pat : PatFn} {a e x y : Line} {sa se : List Line} (hlen : ra.length = re.length)
    (hxy : (if x != y then [(x, y)] else []) = if lineOKb o pat a e then [] else [(normalize o a, normalize o e)])
    (h : DifferOn R (((ra ++ [x]).zip (re ++ [y])).filter differ ++ unexcusedAhead o pat sa se)) :
    DifferOn R ((ra.zip re).filter differ ++ unexcusedAhead o pat (a :: sa) (e :: se)) := by
  rw [unexcusedAhead_cons, ← hxy]
  exact .step hlen h
end step

section loop
variable {o : Opts} {pat : PatFn} {oa oe : List Line} {aRem eRem aIgn eIgn : List Nat}
  (hRemA : Marks o oa aRem) (hRemE : Marks o oe eRem) (hIgn : MarksIgnorable o pat oa oe aIgn eIgn)
include hRemA hRemE hIgn

/-- The invariant of `reconstructLoop`: the two texts it returns differ exactly on the differences emitted so far followed
    by `unexcusedAhead`, the unexcused pairs still ahead. `hcnt` keeps the cursors aligned: equally many survivors are ahead
    on both sides, so survivors are met in pairs and neither side runs out while the other still holds one. -/
theorem loop_spec (fuel ia ie : Nat) (ra re : List Line) (hf : (oa.length - ia) + (oe.length - ie) < fuel)
    (hcnt : (survivorsFrom o oa ia).length = (survivorsFrom o oe ie).length) (hlen : ra.length = re.length) :
    DifferOn (reconstructLoop (oa.map (normalize o)) (oe.map (normalize o)) aRem eRem aIgn eIgn fuel ia ie ra re)
      ((ra.zip re).filter differ ++ unexcusedAhead o pat (survivorsFrom o oa ia) (survivorsFrom o oe ie)) := by
  fun_induction reconstructLoop (oa.map (normalize o)) (oe.map (normalize o)) aRem eRem aIgn eIgn fuel ia ie ra re
  case case1 => exact absurd hf (Nat.not_lt_zero _)
  -- both lines removed, or one of them: one marker line on either side, nothing to compare
  case case2 fuel ia ie ra re _ la le h m ih =>
    rw [Bool.and_eq_true] at h
    obtain ⟨ha, hsa⟩ := survivorsFrom_of_removed hRemA h.1
    obtain ⟨he, hse⟩ := survivorsFrom_of_removed hRemE h.2
    rw [hsa, hse] at hcnt ⊢
    exact .step_same hlen (ih (by omega) hcnt (by simp [hlen]))
  case case3 fuel ia ie ra re _ la _ h m ih =>
    obtain ⟨ha, hsa⟩ := survivorsFrom_of_removed hRemA h
    rw [hsa] at hcnt ⊢
    exact .step_same hlen (ih (by omega) hcnt (by simp [hlen]))
  case case4 fuel ia ie ra re _ le _ _ h m ih =>
    obtain ⟨he, hse⟩ := survivorsFrom_of_removed hRemE h
    rw [hse] at hcnt ⊢
    exact .step_same hlen (ih (by omega) hcnt (by simp [hlen]))
  -- one side exhausted while a line survives on the other: excluded by the equal counts
  case case5 fuel ia ie ra re h1 le _ _ h hge ih =>
    rw [List.length_map] at hge
    have he : ie < oe.length := by simp at h1; omega
    rw [survivorsFrom_of_le hge, (survivorsFrom_of_kept hRemE he h).2] at hcnt
    cases hcnt
  case case6 fuel ia ie ra re _ la _ h _ hlt hge ih =>
    rw [List.length_map] at hlt hge
    rw [survivorsFrom_of_le hge, (survivorsFrom_of_kept hRemA (Nat.not_le.mp hlt) h).2] at hcnt
    cases hcnt
  -- two surviving lines: equal after stripping, ignored (one marker line), or shown as they are
  case case7 fuel ia ie ra re _ la le _ hA hE ha he heq ih =>
    rw [List.length_map, Nat.not_le] at ha he
    have : normalize o oa[ia] = normalize o oe[ie] := by simpa [la, le, ha, he] using heq
    rw [(survivorsFrom_of_kept hRemA ha hA).2, (survivorsFrom_of_kept hRemE he hE).2] at hcnt ⊢
    refine .step_cons hlen ?_ (ih (by omega) (by simpa using hcnt) (by simp [hlen]))
    simp [la, le, ha, he, C04.Lemmas.lineOKb_of_normalize_eq o pat _ _ this, this]
  case case8 fuel ia ie ra re _ la le _ hA hE ha he hne hign m ih
     | case9 fuel ia ie ra re _ la le _ hA hE ha he hne hign ih =>
    rw [List.length_map, Nat.not_le] at ha he
    have hn : normalize o oa[ia] ≠ normalize o oe[ie] := by simpa [la, le, ha, he] using hne
    obtain ⟨hra, hsa⟩ := survivorsFrom_of_kept hRemA ha hA
    obtain ⟨hre, hse⟩ := survivorsFrom_of_kept hRemE he hE
    rw [hIgn ia ie ha he hra hre hcnt hn] at hign
    rw [hsa, hse] at hcnt ⊢
    refine .step_cons hlen ?_ (ih (by omega) (by simpa using hcnt) (by simp [hlen]))
    simp [la, le, ha, he, C04.Lemmas.lineOKb_of_normalize_ne hn, hn, hign]
  case case10 fuel ia ie ra re h =>
    simp only [List.length_map, Bool.or_eq_true, decide_eq_true_iff, not_or, Nat.not_lt] at h
    -- no survivor is left on the actual side, and `unexcusedAhead` of `[]` reduces to `[]`
    rw [survivorsFrom_of_le h.1]
    exact ⟨hlen, (List.append_nil _).symm⟩

theorem reconstruct_spec (hcnt : (oa.filter (survives o)).length = (oe.filter (survives o)).length) :
    DifferOn (reconstruct (oa.map (normalize o)) (oe.map (normalize o)) aRem eRem aIgn eIgn)
      (unexcusedAhead o pat (survivorsFrom o oa 0) (survivorsFrom o oe 0)) :=
  loop_spec hRemA hRemE hIgn _ 0 0 [] [] (by simp) hcnt rfl
end loop

theorem survivorIdx_nodup (o : Opts) (l : List Line) : (survivorIdx o l).Nodup :=
  List.Pairwise.filter _ List.nodup_range

theorem survivorIdx_length (o : Opts) (l : List Line) : (survivorIdx o l).length = (l.filter (survives o)).length := by
  rw [← ListAux.filter_range_map_getD (survives o) [] l, List.length_map]
  rfl

theorem idxMap_eq (o : Opts) (l : List Line) (k : Nat) : idxMap o l k = (survivorIdx o l).getD k k := by
  unfold idxMap
  split
  · rfl
  · rename_i h
    have : survivorIdx o l = List.range l.length :=
      List.filter_eq_self.mpr fun x _ => by simp [removable_of_isEmpty h]
    rw [this]
    by_cases hk : k < l.length <;> simp [hk]

/-- `l[i]` is survivor number `k`, the count of survivors before it; `idxMap` takes `k`, and no other position, to `i` -/
theorem survivor_pos (o : Opts) (l : List Line) {i : Nat} (hi : i < l.length) (hr : removable o l[i] = false) :
    (l.filter (survives o))[((l.take i).filter (survives o)).length]? = some l[i] ∧
    ∀ f : Nat → Bool, (((List.range (l.filter (survives o)).length).filter f).map (idxMap o l)).contains i =
      f ((l.take i).filter (survives o)).length := by
  have hp : survives o l[i] = true := by simp [hr]
  refine ⟨ListAux.filter_getElem?_length_filter_take hi hp, fun f => ?_⟩
  rw [funext (idxMap_eq o l), ← survivorIdx_length, ListAux.contains_map_getD_filter_range (survivorIdx_nodup o l)
    (ListAux.filter_range_getElem?_length_filter_take [] hi hp)]

/-- the positions `wrong_content` records as ignored -/
theorem ignored_eq_canIgnore {o : Opts} {pat : PatFn} {oa oe : List Line}
    (hl : (oa.filter (survives o)).length = (oe.filter (survives o)).length) :
    let D := (diffsOf o (oa.filter (survives o)) (oe.filter (survives o))).filter
      (ignAt o pat (oa.filter (survives o)) (oe.filter (survives o)))
    MarksIgnorable o pat oa oe (D.map (idxMap o oa)) (D.map (idxMap o oe)) := by
  dsimp only
  intro ia ie ha he hra hre hcnt hn
  obtain ⟨hAa, hCa⟩ := survivor_pos o oa ha hra
  obtain ⟨hAe, hCe⟩ := survivor_pos o oe he hre
  -- as many survivors before `ie` as before `ia`: the two lines are compared with each other
  have hk : ((oe.take ie).filter (survives o)).length = ((oa.take ia).filter (survives o)).length := by
    have h1 := length_filter_eq_add_survivorsFrom o oa ia
    have h2 := length_filter_eq_add_survivorsFrom o oe ie
    omega
  rw [hk] at hAe hCe
  rw [diffsOf, List.filter_filter, hCa, hl, hCe, Bool.or_self]
  simp [ignAt, hAa, hAe, hn]

theorem postprocessed_differ_exactly (o : Opts) (pat : PatFn) (a e : List Line)
    (ra re : List Line)
    (hl : (kept o a).length = (kept o e).length)
    (hr : (checkStrings o pat a e).reconstruction = some (ra, re)) :
    ra.length = re.length ∧
    (ra.zip re).filter (fun p => p.1 != p.2)
      = (badPairs o pat a e).map (fun p => (normalize o p.1, normalize o p.2)) := by
  rw [checkStrings_of_length_eq hl (wrongContent_eq ..).symm rfl] at hr
  -- reduce the projection `.reconstruction` of the record and the fields of `wrong_content`'s result in it
  simp only [] at hr
  split at hr
  · have hrec := Option.some.inj hr
    simp only [kept_def] at hrec hl
    have := reconstruct_spec (pat := pat) (remIdx_marks o (dropTrailingEmpty a)) (remIdx_marks o (dropTrailingEmpty e))
      (ignored_eq_canIgnore hl) hl
    rw [hrec, unexcusedAhead_zero] at this
    exact this
  · cases hr

end TddaVerif.Props.C15.Lemmas
