/- C07 (discovery is exact): each theorem reads one kind of constraint off `DiscAux.discovered`
   and applies the specification of the aggregate behind it. -/
import TddaVerif.Lemmas.DiscoverAux

namespace TddaVerif.Props.C07
open TddaVerif.Constraints TddaVerif.Props.C02

/-- `s'` is a strictly stronger sign class than `s`: the four proper inclusions between the classes read as sets of
    numbers.  `.null` holds of no number; it is left out, since on a column with a value it never holds. -/
def Stronger' : Sign → Sign → Bool
  | .zero, .nonNegative | .zero, .nonPositive | .positive, .nonNegative | .negative, .nonPositive => true
  | _, _ => false

end TddaVerif.Props.C07

namespace TddaVerif.Props.C07.Lemmas
open TddaVerif.Constraints TddaVerif.Props.C02 TddaVerif.Props.C07 TddaVerif.Constraints.DiscAux
open TddaVerif.Constraints.Order

theorem discover_total (incRex : Bool) (rexOf : List Val → List Nat) (c : Column) (hwf : c.WF = true) :
    ∃ ks, discoverField incRex rexOf c c.cells.length = .ok (some ks) := by
  rw [discover_eq, if_neg (wf_ne_other c hwf)]
  exact ⟨_, rfl⟩

theorem type_is_column_type (incRex : Bool) (rexOf : List Val → List Nat) (c : Column) (n : Nat)
    (ks : List Constraint) (h : discoverField incRex rexOf c n = .ok (some ks)) :
    ks.head? = some (.type (some [c.ftype])) ∧
    ∀ ts, Constraint.type ts ∈ ks → ts = some [c.ftype] := by
  cases discover_ok h
  split
  · refine ⟨rfl, fun ts hts => ?_⟩
    rw [discovered0] at hts
    split at hts <;> simpa using hts
  · exact ⟨rfl, fun _ => mem_type.mp⟩

theorem nothing_for_absent (incRex : Bool) (rexOf : List Val → List Nat) (c : Column)
    (ks : List Constraint) (h : discoverField incRex rexOf c 0 = .ok (some ks)) :
    ks = .type (some [c.ftype]) ::
          (if c.ftype == .string && incRex then [Constraint.rex (some (rexOf []))] else []) :=
  discover_ok h

theorem bound_exact {c : Column} {ks : List Constraint} {K : Option Val → Precision → Constraint}
    {o : Option Val} {r : Val → Val → Prop}
    (hK : ∀ {v p}, K v p ∈ ks ↔ c.ftype ≠ .string ∧ ∃ m, o = some m ∧ v = some m ∧ p = .fuzzy)
    (hspec : ∀ {m}, o = some m → m ∈ c.nonNull ∧ ∀ x ∈ c.nonNull, r m x)
    (hsome : c.nonNull ≠ [] → ∃ m, o = some m) :
    (∀ v p, K v p ∈ ks → ∃ m, v = some m ∧ m ∈ c.nonNull ∧ ∀ x ∈ c.nonNull, r m x) ∧
    ((∃ v p, K v p ∈ ks) ↔ (c.ftype ≠ .string ∧ c.nonNull ≠ [])) := by
  simp only [hK]
  refine ⟨?_, ?_, ?_⟩
  · rintro v p ⟨_, m, hm, rfl, _⟩
    exact ⟨m, rfl, hspec hm⟩
  · rintro ⟨_, _, hs, m, hm, _⟩
    exact ⟨hs, List.ne_nil_of_mem (hspec hm).1⟩
  · rintro ⟨hs, hne⟩
    obtain ⟨m, hm⟩ := hsome hne
    exact ⟨_, _, hs, m, hm, rfl, rfl⟩

theorem min_exact (incRex : Bool) (rexOf : List Val → List Nat) (c : Column) (hwf : c.WF = true)
    (ks : List Constraint) (hn : 0 < c.cells.length)
    (h : discoverField incRex rexOf c c.cells.length = .ok (some ks)) :
    (∀ v p, Constraint.min v p ∈ ks → ∃ m, v = some m ∧ m ∈ c.nonNull ∧ ∀ x ∈ c.nonNull, m.le x = true) ∧
    ((∃ v p, Constraint.min v p ∈ ks) ↔ (c.ftype ≠ .string ∧ c.nonNull ≠ [])) := by
  obtain rfl := discover_ok_pos hn h
  exact bound_exact mem_min (minOf_least (wf_sameCoarse hwf)) exists_minOf

theorem max_exact (incRex : Bool) (rexOf : List Val → List Nat) (c : Column) (hwf : c.WF = true)
    (ks : List Constraint) (hn : 0 < c.cells.length)
    (h : discoverField incRex rexOf c c.cells.length = .ok (some ks)) :
    (∀ v p, Constraint.max v p ∈ ks → ∃ m, v = some m ∧ m ∈ c.nonNull ∧ ∀ x ∈ c.nonNull, x.le m = true) ∧
    ((∃ v p, Constraint.max v p ∈ ks) ↔ (c.ftype ≠ .string ∧ c.nonNull ≠ [])) := by
  obtain rfl := discover_ok_pos hn h
  exact bound_exact mem_max (maxOf_greatest (wf_sameCoarse hwf)) exists_maxOf

theorem uniques_exact (c : Column) (hwf : c.WF = true) :
    (∀ v, v ∈ calcUniques c ↔ v ∈ c.nonNull) ∧
    (calcUniques c).Pairwise (fun a b => a.lt b = true) :=
  ⟨fun v => (sortVals_perm _).mem_iff.trans (mem_dedup (wf_ftype hwf) v),
   sortVals_sorted _ ((wf_sameCoarse hwf).sublist (dedup_sublist _)) (dedup_pairwise _)⟩

theorem mem_lensOf_uniques {c : Column} (hwf : c.WF = true) {n : Nat} :
    n ∈ lensOf (calcUniques c) ↔ ∃ x, Val.s x ∈ c.nonNull ∧ x.length = n := by
  simp only [mem_lensOf, (uniques_exact c hwf).1]

theorem lensOf_uniques_eq_nil {c : Column} (hwf : c.WF = true) (hs : c.ftype = .string) :
    lensOf (calcUniques c) = [] ↔ c.nonNull = [] := by
  simp only [List.eq_nil_iff_forall_not_mem, mem_lensOf_uniques hwf]
  constructor
  · intro h v hv
    obtain ⟨x, rfl⟩ := str_of_wf hwf hs hv
    exact h _ ⟨x, hv, rfl⟩
  · rintro h n ⟨x, hx, _⟩
    exact h _ hx

theorem length_exact (incRex : Bool) (rexOf : List Val → List Nat) (c : Column) (hwf : c.WF = true)
    (ks : List Constraint) (hn : 0 < c.cells.length)
    (h : discoverField incRex rexOf c c.cells.length = .ok (some ks)) :
    (∀ v, Constraint.minLength v ∈ ks → ∃ m : Nat, v = some (m : Int) ∧
        (∃ x, Val.s x ∈ c.nonNull ∧ x.length = m) ∧ ∀ x, Val.s x ∈ c.nonNull → m ≤ x.length) ∧
    (∀ v, Constraint.maxLength v ∈ ks → ∃ m : Nat, v = some (m : Int) ∧
        (∃ x, Val.s x ∈ c.nonNull ∧ x.length = m) ∧ ∀ x, Val.s x ∈ c.nonNull → x.length ≤ m) ∧
    ((∃ v, Constraint.minLength v ∈ ks) ↔ (c.ftype = .string ∧ c.nonNull ≠ [])) ∧
    ((∃ v, Constraint.maxLength v ∈ ks) ↔ (c.ftype = .string ∧ c.nonNull ≠ [])) := by
  obtain rfl := discover_ok_pos hn h
  simp only [mem_minLength, mem_maxLength]
  have hex : ∀ {o : Option Nat}, (o = none ↔ lensOf (calcUniques c) = []) →
      ((∃ v, c.ftype = .string ∧ ∃ m : Nat, o = some m ∧ v = some (m : Int)) ↔
        (c.ftype = .string ∧ c.nonNull ≠ [])) := by
    intro o ho
    by_cases hs : c.ftype = .string
    · have hne : c.nonNull ≠ [] ↔ o ≠ none := not_congr ((lensOf_uniques_eq_nil hwf hs).symm.trans ho.symm)
      cases o <;> simp [hs, hne]
    · simp [hs]
  refine ⟨?_, ?_, hex listMin_eq_none, hex listMax_eq_none⟩
  · rintro v ⟨_, m, hm, rfl⟩
    obtain ⟨h1, h2⟩ := listMin_least hm
    exact ⟨m, rfl, (mem_lensOf_uniques hwf).mp h1, fun x hx => h2 _ ((mem_lensOf_uniques hwf).mpr ⟨x, hx, rfl⟩)⟩
  · rintro v ⟨_, m, hm, rfl⟩
    obtain ⟨h1, h2⟩ := listMax_greatest hm
    exact ⟨m, rfl, (mem_lensOf_uniques hwf).mp h1, fun x hx => h2 _ ((mem_lensOf_uniques hwf).mpr ⟨x, hx, rfl⟩)⟩

theorem signOf_cases {x y : Rat} (hxy : x ≤ y) :
    (x = 0 ∧ y = 0 ∧ signOf x y = some .zero) ∨
    (0 < x ∧ 0 < y ∧ signOf x y = some .positive) ∨
    (x = 0 ∧ 0 < y ∧ signOf x y = some .nonNegative) ∨
    (x < 0 ∧ y < 0 ∧ signOf x y = some .negative) ∨
    (x < 0 ∧ y = 0 ∧ signOf x y = some .nonPositive) ∨
    (x < 0 ∧ 0 < y ∧ signOf x y = none) := by
  unfold signOf
  by_cases h0 : x = 0 ∧ y = 0
  · simp [h0]
  · have h0' : (x == 0 && y == 0) = false := by simpa using h0
    simp only [h0', Bool.false_eq_true, if_false]
    by_cases h1 : x ≥ 0
    · by_cases h2 : x > 0
      · simp [h1, h2, Std.lt_of_lt_of_le h2 hxy]
      · have hx : x = 0 := Rat.le_antisymm (Rat.not_lt.mp h2) h1
        have hy : 0 < y := Rat.lt_of_le_of_ne (hx ▸ hxy) fun h => h0 ⟨hx, h.symm⟩
        simp [hx, hy]
    · have hx : x < 0 := Rat.not_le.mp h1
      by_cases h3 : y ≤ 0
      · by_cases h4 : y < 0
        · simp [h1, h3, h4, hx]
        · simp [h1, hx, Rat.le_antisymm h3 (Rat.not_lt.mp h4)]
      · simp [h1, h3, hx, Rat.not_le.mp h3]

theorem signOf_spec {x y : Rat} (hxy : x ≤ y) :
    match signOf x y with
    | some s => (SignHolds s x ∧ SignHolds s y) ∧
        ∀ s', Stronger' s' s = true → ¬ (SignHolds s' x ∧ SignHolds s' y)
    | none => ∀ s, ¬ (SignHolds s x ∧ SignHolds s y) := by
  rcases signOf_cases hxy with ⟨hx, hy, he⟩ | ⟨hx, hy, he⟩ | ⟨hx, hy, he⟩ | ⟨hx, hy, he⟩ | ⟨hx, hy, he⟩ |
    ⟨hx, hy, he⟩ <;> rw [he]
  -- zero, positive and negative have no stronger class; for the two weak classes each stronger one fails at an end
  · exact ⟨⟨hx, hy⟩, fun s' hs' => by cases s' <;> cases hs'⟩
  · exact ⟨⟨hx, hy⟩, fun s' hs' => by cases s' <;> cases hs'⟩
  · refine ⟨⟨hx ▸ Rat.le_refl, Rat.le_of_lt hy⟩, fun s' hs' => ?_⟩
    cases s' <;> cases hs'
    case positive.refl => exact fun h => Rat.ne_of_gt h.1 hx
    case zero.refl => exact fun h => Rat.ne_of_gt hy h.2
  · exact ⟨⟨hx, hy⟩, fun s' hs' => by cases s' <;> cases hs'⟩
  · refine ⟨⟨Rat.le_of_lt hx, hy ▸ Rat.le_refl⟩, fun s' hs' => ?_⟩
    cases s' <;> cases hs'
    case zero.refl => exact fun h => Rat.ne_of_lt hx h.1
    case negative.refl => exact fun h => Rat.ne_of_lt h.2 hy
  · intro s h
    cases s with
    | positive => exact Rat.lt_irrefl (Std.lt_trans h.1 hx)
    | nonNegative => exact Rat.not_le.mpr hx h.1
    | zero => exact Rat.ne_of_lt hx h.1
    | nonPositive => exact Rat.not_le.mpr hy h.2
    | negative => exact Rat.lt_irrefl (Std.lt_trans h.2 hy)
    | null => exact h.1

theorem sign_strongest (incRex : Bool) (rexOf : List Val → List Nat) (c : Column) (hwf : c.WF = true)
    (ks : List Constraint) (hn : 0 < c.cells.length) (hne : c.nonNull ≠ [])
    (hnum : c.ftype = .bool ∨ c.ftype = .int ∨ c.ftype = .real)
    (h : discoverField incRex rexOf c c.cells.length = .ok (some ks)) :
    (∀ s, Constraint.sign (some s) ∈ ks →
        (∀ v ∈ c.nonNull, ∃ q, v.num = some q ∧ SignHolds s q) ∧
        ∀ s', Stronger' s' s = true → ¬ ∀ v ∈ c.nonNull, ∃ q, v.num = some q ∧ SignHolds s' q) ∧
    ((¬ ∃ s, Constraint.sign s ∈ ks) →
        ∀ s, ¬ ∀ v ∈ c.nonNull, ∃ q, v.num = some q ∧ SignHolds s q) := by
  obtain rfl := discover_ok_pos hn h
  have hs := wf_sameCoarse hwf
  obtain ⟨a, ha⟩ := exists_minOf hne
  obtain ⟨b, hb⟩ := exists_maxOf hne
  obtain ⟨x, hx⟩ : ∃ x, a.num = some x := by
    rw [← wf_ftype hwf a (minOf_mem ha)] at hnum
    cases a <;> simp [Val.ftype] at hnum <;> exact ⟨_, rfl⟩
  obtain ⟨y, hy, hxy, _⟩ := num_between hs ha hb hx
  have hg : ¬ (c.ftype = .string ∨ c.ftype = .date) := by rcases hnum with h | h | h <;> simp [h]
  simp only [mem_sign, hg, not_false_eq_true, true_and, discoveredSign_eq ha hb hx hy,
    all_signHolds_iff hs ha hb hx hy]
  have hsp := signOf_spec hxy
  generalize signOf x y = o at hsp ⊢
  cases o with
  | none => exact ⟨fun _ ⟨_, h, _⟩ => (nomatch h), fun _ => hsp⟩
  | some s => exact ⟨fun s' ⟨_, h1, h2⟩ => by cases h1; cases h2; exact hsp, fun hno => absurd ⟨_, s, rfl, rfl⟩ hno⟩

theorem maxNulls_iff (incRex : Bool) (rexOf : List Val → List Nat) (c : Column) (hwf : c.WF = true)
    (ks : List Constraint) (hn : 0 < c.cells.length)
    (h : discoverField incRex rexOf c c.cells.length = .ok (some ks)) (v : Option Int) :
    Constraint.maxNulls v ∈ ks ↔ (v = some (nullCells c : Int) ∧ nullCells c < 2) := by
  have _ := hwf  -- not needed: `h` already excludes the unrecognised type
  obtain rfl := discover_ok_pos hn h
  exact mem_maxNulls

theorem noDuplicates_iff (incRex : Bool) (rexOf : List Val → List Nat) (c : Column) (hwf : c.WF = true)
    (ks : List Constraint) (hn : 0 < c.cells.length)
    (h : discoverField incRex rexOf c c.cells.length = .ok (some ks)) (v : Option Bool) :
    Constraint.noDuplicates v ∈ ks ↔
      (v = some true ∧ c.ftype ≠ .real ∧ 1 < c.nonNull.length ∧
       c.nonNull.Pairwise (fun a b => a.eqv b = false)) := by
  have _ := hwf  -- not needed
  obtain rfl := discover_ok_pos hn h
  rw [mem_noDup, dedup_length_eq_iff]

theorem allowedValues_iff (incRex : Bool) (rexOf : List Val → List Nat) (c : Column) (hwf : c.WF = true)
    (ks : List Constraint) (hn : 0 < c.cells.length)
    (h : discoverField incRex rexOf c c.cells.length = .ok (some ks)) (v : Option (List Val)) :
    Constraint.allowedValues v ∈ ks ↔
      (c.ftype = .string ∧ v = some (calcUniques c) ∧ 0 < (calcUniques c).length ∧
       (calcUniques c).length ≤ 20) := by
  have _ := hwf  -- not needed
  obtain rfl := discover_ok_pos hn h
  rw [mem_allowed, List.length_pos_iff, maxCategories]

end TddaVerif.Props.C07.Lemmas
