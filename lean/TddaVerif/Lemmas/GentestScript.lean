/-
C11, the class body of a generated script: `wellOrdered` means that every class-level name a statement reads is defined by an
earlier statement (`wellOrdered_spec`), by induction over the statements with the names defined so far as accumulator.
-/
import TddaVerif.Model.GentestScript

namespace TddaVerif.GentestScript.Lemmas
open TddaVerif.GentestScript

theorem wellOrderedFrom_spec (defined : List Name) (pre : List Part) (p : Part) (post : List Part)
    (h : wellOrderedFrom defined (pre ++ p :: post) = true) (u : Name) (hu : u ∈ p.uses) :
    u ∈ defined ∨ ∃ q ∈ pre, u ∈ q.defines := by
  induction pre generalizing defined with
  | nil =>
    simp only [List.nil_append, wellOrderedFrom, Bool.and_eq_true, List.all_eq_true, List.contains_iff_mem] at h
    exact .inl (h.1 u hu)
  | cons a as ih =>
    simp only [List.cons_append, wellOrderedFrom, Bool.and_eq_true] at h
    rcases ih _ h.2 with h1 | ⟨q, hq, hqu⟩
    · exact (List.mem_append.1 h1).imp id fun h2 => ⟨a, List.mem_cons_self, h2⟩
    · exact .inr ⟨q, List.mem_cons_of_mem _ hq, hqu⟩

theorem wellOrdered_spec (ps : List Part) (h : wellOrdered ps = true) (pre : List Part) (p : Part) (post : List Part)
    (hs : ps = pre ++ p :: post) (u : Name) (hu : u ∈ p.uses) : ∃ q ∈ pre, u ∈ q.defines :=
  (wellOrderedFrom_spec [] pre p post (hs ▸ h) u hu).resolve_left List.not_mem_nil

end TddaVerif.GentestScript.Lemmas
