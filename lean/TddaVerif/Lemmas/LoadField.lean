/- `loadField` as a fold of one `step` per dictionary entry: an entry of no standard kind leaves the constraints alone
   and at most warns, so only the standard entries decide what is loaded. -/
import TddaVerif.Model.TddaFile
namespace TddaVerif.Props.C09.Aux
open TddaVerif.Py TddaVerif.TddaFile

def step (name : Line) (isDate : Bool) (acc : List Con × List (Line × Line)) (kv : Line × JVal) :
    Except LoadErr (List Con × List (Line × Line)) :=
  if standardKinds.contains kv.1 then
    match construct kv.1 kv.2 with
    | .error e => .error e
    | .ok con =>
      let con := if isDate && (kv.1 == lit "min" || kv.1 == lit "max") then reparseDate con else con
      .ok (putCon acc.1 con, acc.2)
  else if kv.1.head? == some '#' then .ok acc
  else .ok (acc.1, acc.2 ++ [(name, kv.1)])

def dictIsDate (c : List (Line × JVal)) : Bool :=
  loadField.lookupKindVal c == some (JVal.atom (.str (lit "date")))

theorem loadField_eq (name : Line) (c : List (Line × JVal)) :
    loadField name c = c.foldlM (step name (dictIsDate c)) ([], []) := rfl

theorem dictIsDate_eq (c : List (Line × JVal)) :
    dictIsDate c = ((c.find? (fun kv => kv.1 == lit "type")).map (·.2) == some (JVal.atom (.str (lit "date")))) := rfl

theorem type_mem_standardKinds : standardKinds.contains (lit "type") = true := List.elem_cons_self ..

theorem dictIsDate_filter (c : List (Line × JVal)) :
    dictIsDate (c.filter (fun kv => standardKinds.contains kv.1)) = dictIsDate c := by
  rw [dictIsDate_eq, dictIsDate_eq, List.find?_filter]
  congr 3
  funext kv
  cases hk : kv.1 == lit "type" with
  | false => simp
  | true => simpa [beq_iff_eq.1 hk] using type_mem_standardKinds

def loadCon (isDate : Bool) (k : Line) (v : JVal) : Except LoadErr Con :=
  (construct k v).map fun con => if isDate && (k == lit "min" || k == lit "max") then reparseDate con else con

theorem step_of_std {name : Line} {isDate : Bool} {acc : List Con × List (Line × Line)} {k : Line} {v : JVal}
    (hs : standardKinds.contains k = true) :
    step name isDate acc (k, v) = (loadCon isDate k v).map fun con => (putCon acc.1 con, acc.2) := by
  unfold step loadCon
  rw [if_pos hs]
  cases construct k v <;> rfl

theorem step_of_not_std {name : Line} {isDate : Bool} {acc : List Con × List (Line × Line)} {k : Line} {v : JVal}
    (hs : standardKinds.contains k = false) :
    step name isDate acc (k, v) = .ok (acc.1, if k.head? == some '#' then acc.2 else acc.2 ++ [(name, k)]) := by
  unfold step
  rw [if_neg (Bool.eq_false_iff.1 hs)]
  split <;> rfl

theorem foldlM_step_filter (name : Line) (isDate : Bool) (c : List (Line × JVal))
    {acc acc' : List Con × List (Line × Line)} (h : acc.1 = acc'.1) :
    (c.foldlM (step name isDate) acc).map (·.1) =
      ((c.filter (fun kv => standardKinds.contains kv.1)).foldlM (step name isDate) acc').map (·.1) := by
  induction c generalizing acc acc' with
  | nil => simp [pure, Except.pure, Except.map, h]
  | cons kv rest ih =>
    obtain ⟨k, v⟩ := kv
    rw [List.foldlM_cons]
    by_cases hs : standardKinds.contains k = true
    · rw [List.filter_cons, if_pos hs, List.foldlM_cons, step_of_std hs, step_of_std hs, h]
      cases loadCon isDate k v with
      | error e => rfl
      | ok con => exact ih rfl
    · rw [List.filter_cons, if_neg hs, step_of_not_std (Bool.eq_false_iff.2 hs)]
      exact ih h

theorem unknown_ignored (name : Line) (c : List (Line × JVal)) :
    (loadField name c).map (·.1) =
      (loadField name (c.filter (fun kv => standardKinds.contains kv.1))).map (·.1) := by
  rw [loadField_eq, loadField_eq, dictIsDate_filter]
  exact foldlM_step_filter name _ c rfl

theorem hash_key_silent (name : Line) (pre post : List (Line × JVal)) (k : Line) (v : JVal)
    (hk : k.head? = some '#') (hs : standardKinds.contains k = false) :
    loadField name (pre ++ (k, v) :: post) = loadField name (pre ++ post) := by
  have hd : dictIsDate (pre ++ (k, v) :: post) = dictIsDate (pre ++ post) := by
    rw [← dictIsDate_filter, ← dictIsDate_filter (pre ++ post)]
    simp only [List.filter_append, List.filter_cons, hs, Bool.false_eq_true, if_false]
  rw [loadField_eq, loadField_eq, hd, List.foldlM_append, List.foldlM_append]
  congr 1
  funext acc
  rw [List.foldlM_cons, step_of_not_std hs, hk]
  rfl

end TddaVerif.Props.C09.Aux
