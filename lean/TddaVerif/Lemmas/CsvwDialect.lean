/-
C16, the header rule: after `nvl(·, 1)` only an explicit zero count is zero, so a file is read without a header row exactly
when `header` or `headerRowCount` is false / 0 (`headerless_eq`); `headerKw` in the same terms (`headerKw_eq`).
-/
import TddaVerif.Model.CsvwDialect

namespace TddaVerif.CsvwDialect.Lemmas
open TddaVerif.CsvwDialect

theorem headerless_eq (h c : JV) : headerless h c = (h.eqZero || c.eqZero) := by
  unfold headerless headerRows
  cases hh : h.eqZero
  · cases c <;> rfl
  · rfl

theorem headerless_iff (h c : JV) : headerless h c = true ↔ (h.eqZero = true ∨ c.eqZero = true) := by
  rw [headerless_eq, Bool.or_eq_true]

theorem headerKw_eq (h c : JV) (names : List (List Char)) :
    headerKw h c names = if (h.eqZero || c.eqZero) then some names else none := by
  rw [headerKw, headerless_eq]

end TddaVerif.CsvwDialect.Lemmas
