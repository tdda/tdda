/-
Facts about core `List` / `Option` / `Char` / `String` functions that the models use and core does not state. No project
definition occurs here. The headings group the lemmas by the function they are about.
-/
namespace TddaVerif.ListAux
variable {α β κ : Type _}

/-! ### `takeWhile` / `dropWhile` -/

theorem mem_takeWhile {p : α → Bool} {l : List α} {x : α} (h : x ∈ l.takeWhile p) : p x = true :=
  List.all_eq_true.1 List.all_takeWhile x h

theorem span_append {p : α → Bool} {l r : List α} (hl : ∀ a ∈ l, p a = true) (hr : ∀ c ∈ r.head?, p c = false) :
    (l ++ r).takeWhile p = l ∧ (l ++ r).dropWhile p = r := by
  have h0 : r.takeWhile p = [] ∧ r.dropWhile p = r := by
    cases r with
    | nil => exact ⟨rfl, rfl⟩
    | cons c r => simp [hr c rfl]
  rw [List.takeWhile_append_of_pos hl, List.dropWhile_append_of_pos hl, h0.1, h0.2, List.append_nil]
  exact ⟨rfl, rfl⟩

theorem takeWhile_eq_self {p : α → Bool} {l : List α} (h : ∀ a ∈ l, p a = true) : l.takeWhile p = l := by
  simpa using (span_append (r := []) h (by simp)).1

theorem takeWhile_append_cons {p : α → Bool} {l : List α} (hl : ∀ a ∈ l, p a = true) {c : α} (hc : p c = false)
    (r : List α) : (l ++ c :: r).takeWhile p = l :=
  (span_append hl (by simpa using hc)).1

theorem filter_dropWhile {p q : α → Bool} (h : ∀ x, p x = true → q x = false) (l : List α) :
    (l.dropWhile q).filter p = l.filter p := by
  induction l with
  | nil => rfl
  | cons a l ih =>
    rw [List.dropWhile_cons]
    split
    · next hq => rw [ih, List.filter_cons_of_neg]; intro hp; simp [h a hp] at hq
    · rfl

/-! ### indexing by `range` and `getD` (Python's `for i in range(len(l))`) -/

theorem map_getD_range (d : α) (l : List α) : (List.range l.length).map (fun i => l.getD i d) = l := by
  apply List.ext_getElem <;> simp +contextual

theorem filter_range_map_getD (p : α → Bool) (d : α) (l : List α) :
    ((List.range l.length).filter (fun i => p (l.getD i d))).map (fun i => l.getD i d) = l.filter p := by
  conv => rhs; rw [← map_getD_range d l, List.filter_map]
  rfl

theorem zip_eq_map_getD_range (a : α) (b : β) {A : List α} {B : List β} (h : A.length = B.length) :
    A.zip B = (List.range A.length).map (fun i => (A.getD i a, B.getD i b)) := by
  apply List.ext_getElem
  · simp [h]
  · intro i h1 h2
    simp only [List.length_zip, Nat.lt_min] at h1
    simp [List.getD_eq_getElem?_getD, h1.1, h1.2]

theorem getD_map_of_getElem? {f : α → β} {d : β} {l : List α} {i : Nat} {a : α} (h : l[i]? = some a) :
    (l.map f).getD i d = f a := by
  simp [List.getD_eq_getElem?_getD, h]

theorem length_filter_range_getD (p : α → Bool) (d : α) {l : List α} {i : Nat} (hi : i ≤ l.length) :
    ((List.range i).filter (fun j => p (l.getD j d))).length = ((l.take i).filter p).length := by
  rw [← filter_range_map_getD p d (l.take i), List.length_map, List.length_take, Nat.min_eq_left hi]
  congr 1
  apply List.filter_congr
  intro j hj
  simp [List.getD_eq_getElem?_getD, List.mem_range.1 hj]

/-- an element that satisfies `p` stands in `l.filter p` at the index that is the number of such elements before it -/
theorem filter_getElem?_length_filter_take {p : α → Bool} {l : List α} {i : Nat} (hi : i < l.length)
    (hp : p l[i] = true) : (l.filter p)[((l.take i).filter p).length]? = some l[i] := by
  conv => lhs; rw [← List.take_append_drop i l, List.drop_eq_getElem_cons hi]
  rw [List.filter_append, List.filter_cons, if_pos hp]
  simp

theorem filter_range_getElem?_length_filter_take {p : α → Bool} (d : α) {l : List α} {i : Nat} (hi : i < l.length)
    (hp : p l[i] = true) :
    ((List.range l.length).filter (fun j => p (l.getD j d)))[((l.take i).filter p).length]? = some i := by
  have h := filter_getElem?_length_filter_take (p := fun j => p (l.getD j d)) (l := List.range l.length) (i := i)
    (by simpa using hi) (by simpa [hi] using hp)
  rw [List.take_range, Nat.min_eq_left (Nat.le_of_lt hi), length_filter_range_getD p d (Nat.le_of_lt hi)] at h
  simpa using h

/-- an entry of a duplicate-free table `S` is among the entries at the positions `f` keeps iff `f` keeps its own position -/
theorem contains_map_getD_filter_range {S : List Nat} (hS : S.Nodup) {k i : Nat} (hk : S[k]? = some i) (f : Nat → Bool) :
    (((List.range S.length).filter f).map (fun j => S.getD j j)).contains i = f k := by
  obtain ⟨hk', rfl⟩ := List.getElem?_eq_some_iff.mp hk
  rw [Bool.eq_iff_iff]
  simp only [List.contains_iff_mem, List.mem_map, List.mem_filter, List.mem_range]
  constructor
  · rintro ⟨j, ⟨hj, hf⟩, he⟩
    have : S[j] = S[k] := by simpa [hj] using he
    exact (List.getElem_inj hS).mp this ▸ hf
  · exact fun hf => ⟨k, ⟨hk', hf⟩, by simp [hk']⟩

/-! ### `eraseDups` (Python's `list(dict.fromkeys(l))`) -/

section eraseDups
variable [BEq α]

/-- the recursion of `eraseDups` goes through a `filter`, so its facts are proved by this principle -/
theorem eraseDups_induction {motive : List α → Prop} (nil : motive [])
    (cons : ∀ a as, motive (as.filter fun b => !b == a) → motive (a :: as)) : ∀ l, motive l
  | [] => nil
  | a :: as => cons a as (eraseDups_induction nil cons _)
termination_by l => l.length
decreasing_by exact Nat.lt_succ_of_le (List.length_filter_le _ _)

theorem eraseDups_eq_nil_iff {l : List α} : l.eraseDups = [] ↔ l = [] := by
  cases l with
  | nil => simp
  | cons a as => simp [List.eraseDups_cons]

theorem eraseDups_sublist (l : List α) : l.eraseDups.Sublist l := by
  induction l using eraseDups_induction with
  | nil => simp
  | cons a as ih => rw [List.eraseDups_cons]; exact (ih.trans List.filter_sublist).cons_cons a

theorem eraseDups_length_le (l : List α) : l.eraseDups.length ≤ l.length := (eraseDups_sublist l).length_le

theorem nodup_eraseDups [LawfulBEq α] (l : List α) : l.eraseDups.Nodup := by
  induction l using eraseDups_induction with
  | nil => simp
  | cons a as ih =>
    rw [List.eraseDups_cons, List.nodup_cons]
    exact ⟨fun h => by simpa using (List.mem_filter.1 (List.mem_eraseDups.1 h)).2, ih⟩

theorem eraseDups_of_nodup [LawfulBEq α] {l : List α} (h : l.Nodup) : l.eraseDups = l := by
  induction l with
  | nil => rfl
  | cons a as ih =>
    rw [List.nodup_cons] at h
    have : as.filter (fun b => !b == a) = as :=
      List.filter_eq_self.2 fun b hb => by simpa using fun e : b = a => h.1 (e ▸ hb)
    rw [List.eraseDups_cons, this, ih h.2]

theorem eraseDups_filter [LawfulBEq α] (p : α → Bool) (l : List α) :
    (l.filter p).eraseDups = l.eraseDups.filter p := by
  induction l using eraseDups_induction with
  | nil => rfl
  | cons a as ih =>
    rw [List.eraseDups_cons, List.filter_cons]
    split
    · rw [List.eraseDups_cons, List.filter_cons_of_pos ‹_›, ← ih, List.filter_filter, List.filter_filter]
      simp only [Bool.and_comm]
    · rw [List.filter_cons_of_neg ‹_›, ← ih, List.filter_filter]
      congr 1
      apply List.filter_congr
      intro b _
      by_cases hb : b = a <;> simp_all

theorem eraseDups_map_length_le [LawfulBEq α] [BEq β] [LawfulBEq β] (f : α → β) (l : List α) :
    (l.map f).eraseDups.length ≤ l.eraseDups.length := by
  have hsub : (l.map f).eraseDups ⊆ l.eraseDups.map f := by
    intro b hb
    obtain ⟨a, ha, rfl⟩ := List.mem_map.1 (List.mem_eraseDups.1 hb)
    exact List.mem_map.2 ⟨a, List.mem_eraseDups.2 ha, rfl⟩
  simpa using (nodup_eraseDups (l.map f)).length_le_of_subset hsub

end eraseDups

/-! ### `filterMap` / `mapM` into `Option` -/

theorem filterMap_congr {f g : α → Option β} {l : List α} (h : ∀ a ∈ l, f a = g a) :
    l.filterMap f = l.filterMap g := by
  induction l <;> simp_all [List.filterMap_cons]

theorem any_countP_filterMap {f : α → Option β} {P : β → Bool} {Q : α → Bool} {l : List α}
    (h : ∀ a ∈ l, (f a).any P = Q a) :
    (l.filterMap f).any P = l.any Q ∧ (l.filterMap f).countP P = l.countP Q := by
  induction l with
  | nil => exact ⟨rfl, rfl⟩
  | cons a as ih =>
    obtain ⟨ih1, ih2⟩ := ih fun t ht => h t (List.mem_cons_of_mem _ ht)
    rw [List.any_cons, List.countP_cons, ← h a List.mem_cons_self, ← ih1, ← ih2]
    cases hf : f a with
    | none => simp [hf]
    | some b => simp [hf, List.countP_cons]

/-- Python's `[a for a, b in zip(l, map(g, l)) if P(b)]` -/
theorem zip_map_filterMap (g : α → β) (P : β → Bool) (l : List α) :
    (l.zip (l.map g)).filterMap (fun ab => if P ab.2 then some ab.1 else none) = l.filter (fun a => P (g a)) := by
  induction l with
  | nil => rfl
  | cons a l ih =>
    rw [List.map_cons, List.zip_cons_cons, List.filterMap_cons, List.filter_cons, ih]
    cases P (g a) <;> rfl

theorem mapM_option_eq (f : α → Option β) (l : List α) :
    l.mapM f = if l.all (fun a => (f a).isSome) then some (l.filterMap f) else none := by
  induction l with
  | nil => rfl
  | cons a l ih =>
    rw [List.mapM_cons, ih, List.all_cons, List.filterMap_cons]
    cases f a with
    | none => rfl
    | some b => cases l.all (fun a => (f a).isSome) <;> rfl

theorem mapM_eq_some_filterMap {f : α → Option β} {l : List α} (h : ∀ a ∈ l, ∃ b, f a = some b) :
    l.mapM f = some (l.filterMap f) := by
  rw [mapM_option_eq, if_pos (List.all_eq_true.2 fun a ha => Option.isSome_iff_exists.2 (h a ha))]

theorem mapM_option_map_perm {γ : Type _} {f : α → Option β} {g : List β → γ}
    (hg : ∀ l l' : List β, l.Perm l' → g l = g l') {l l' : List α} (h : l.Perm l') :
    (l.mapM f).map g = (l'.mapM f).map g := by
  rw [mapM_option_eq, mapM_option_eq, h.all_eq]
  split
  · rw [Option.map_some, Option.map_some, hg _ _ (h.filterMap f)]
  · rfl

/-! ### a list as a dictionary in insertion order: `find?` by key, `lookup`, distinct keys -/

section key
variable [BEq κ] [LawfulBEq κ] {key : α → κ}

theorem key_of_find? {l : List α} {k : κ} {a : α} (h : l.find? (fun x => key x == k) = some a) : key a = k := by
  simpa using List.find?_some h

theorem find?_key_eq_none_iff {l : List α} {k : κ} :
    l.find? (fun x => key x == k) = none ↔ (l.map key).contains k = false := by
  rw [List.find?_eq_none, Bool.eq_false_iff, Ne, List.contains_iff_mem, List.mem_map]
  simp only [beq_iff_eq, not_exists, not_and]

theorem not_any_key {l : List α} {k : κ} (h : k ∉ l.map key) : ¬ l.any (fun x => key x == k) = true := fun hany =>
  let ⟨x, hx, hk⟩ := List.any_eq_true.1 hany
  h (List.mem_map.2 ⟨x, hx, beq_iff_eq.1 hk⟩)

theorem mem_map_fst_iff_find? {l : List (κ × β)} {k : κ} :
    k ∈ l.map (·.1) ↔ ∃ b, l.find? (fun x => x.1 == k) = some (k, b) := by
  constructor
  · intro h
    cases hf : l.find? (fun x => x.1 == k) with
    | none => rw [find?_key_eq_none_iff, List.contains_iff_mem.mpr h] at hf; cases hf
    | some x => exact ⟨x.2, by rw [← key_of_find? hf]⟩
  · rintro ⟨b, h⟩
    exact List.mem_map.mpr ⟨(k, b), List.mem_of_find?_eq_some h, rfl⟩

theorem mem_iff_find?_of_nodup {l : List α} (hn : (l.map key).Nodup) {a : α} :
    a ∈ l ↔ l.find? (fun x => key x == key a) = some a := by
  refine ⟨fun h => ?_, List.mem_of_find?_eq_some⟩
  obtain ⟨as, bs, rfl⟩ := List.append_of_mem h
  rw [List.map_append, List.nodup_append] at hn
  rw [List.find?_eq_some_iff_append]
  refine ⟨by simp, as, bs, rfl, fun x hx => ?_⟩
  simpa using hn.2.2 (key x) (List.mem_map_of_mem hx) (key a) (by simp)

theorem eq_of_key_eq_of_nodup {l : List α} (hn : (l.map key).Nodup) {a b : α} (ha : a ∈ l) (hb : b ∈ l)
    (h : key a = key b) : a = b :=
  Option.some.inj (((mem_iff_find?_of_nodup hn).1 ha).symm.trans (h ▸ (mem_iff_find?_of_nodup hn).1 hb))

omit [BEq κ] [LawfulBEq κ] in
theorem key_not_mem_of_nodup {a l : List α} {x : α} (h : ((a ++ x :: l).map key).Nodup) : key x ∉ a.map key :=
  fun hmem => (List.nodup_append.mp (List.map_append ▸ h)).2.2 _ hmem _ (List.mem_cons_self ..) rfl

/-- `M.filterMap fun k' => l.find? …` is the dictionary `l` restricted to the keys in `M`, in the order of `M` -/
theorem find?_filterMap_find? (key : α → κ) (l : List α) (k : κ) (M : List κ) :
    (M.filterMap (fun k' => l.find? (fun x => key x == k'))).find? (fun x => key x == k)
      = if k ∈ M then l.find? (fun x => key x == k) else none := by
  induction M with
  | nil => rfl
  | cons m M ih =>
    rw [List.filterMap_cons]
    by_cases hkm : m = k
    · subst hkm
      cases hf : l.find? (fun x => key x == m) with
      | none => simp [ih, hf]
      | some a => simp [key_of_find? hf]
    · cases hf : l.find? (fun x => key x == m) with
      | none => simp [ih, Ne.symm hkm]
      | some a => simp [ih, key_of_find? hf, hkm, Ne.symm hkm]

theorem map_filterMap_find?_sublist (key : α → κ) (l : List α) (M : List κ) :
    ((M.filterMap (fun k => l.find? (fun x => key x == k))).map key).Sublist M := by
  induction M with
  | nil => exact .slnil
  | cons m M ih =>
    rw [List.filterMap_cons]
    split
    · exact ih.cons _
    · rw [List.map_cons, key_of_find? (key := key) ‹_›]
      exact ih.cons_cons _

/-- Python's `{**inh, **own}`, read as a list: `own ++ inh.filter (not a key of own)` -/
theorem find?_override (own inh : List α) (k : κ) :
    (own ++ inh.filter (fun x => !(own.map key).contains (key x))).find? (fun x => key x == k) =
      (own.find? (fun x => key x == k)).or (inh.find? (fun x => key x == k)) := by
  rw [List.find?_append]
  cases h : own.find? (fun x => key x == k) with
  | some x => rfl
  | none =>
    rw [find?_key_eq_none_iff] at h
    rw [Option.none_or, Option.none_or, List.find?_filter]
    congr 1; funext x
    cases hx : key x == k with
    | false => simp only [Bool.false_eq_true, and_false, decide_false]
    | true => rw [eq_of_beq hx, h]; rfl

theorem nodup_override {own inh : List α} (h1 : (own.map key).Nodup) (h2 : (inh.map key).Nodup) :
    ((own ++ inh.filter (fun x => !(own.map key).contains (key x))).map key).Nodup := by
  rw [List.map_append, List.nodup_append]
  refine ⟨h1, (List.filter_sublist.map _).nodup h2, ?_⟩
  rintro a ha _ hb rfl
  obtain ⟨x, hx, rfl⟩ := List.mem_map.mp hb
  have := (List.mem_filter.mp hx).2
  rw [List.contains_iff_mem.mpr ha] at this
  cases this

/-- `List.lookup_cons` with `k = k'` for the test: that one leaves a `match` on `k == k'`, which `simp` decides for literal
    keys only by evaluating the comparison -/
theorem lookup_cons_eq [DecidableEq κ] (k k' : κ) (v : β) (l : List (κ × β)) :
    List.lookup k ((k', v) :: l) = if k = k' then some v else l.lookup k := by
  rw [List.lookup_cons]; split <;> simp_all

end key

/-! ### sums -/

theorem sum_map_ite (p : α → Bool) (f : α → Nat) (l : List α) :
    (l.map (fun a => if p a then f a else 0)).sum = ((l.filter p).map f).sum := by
  induction l with
  | nil => rfl
  | cons a t ih => by_cases h : p a = true <;> simp [h, ih]

theorem sum_map_one (l : List α) : (l.map (fun _ => 1)).sum = l.length := by
  simp [List.map_const', List.sum_replicate_nat]

theorem sum_map_add (f g : α → Nat) (l : List α) :
    (l.map fun a => f a + g a).sum = (l.map f).sum + (l.map g).sum := by
  induction l with
  | nil => rfl
  | cons a t ih => simp only [List.map_cons, List.sum_cons, ih]; omega

/-! ### a Boolean verdict that decides a proposition -/

theorem eq_false_of_iff_of_not {b : Bool} {P : Prop} (h : b = true ↔ P) (hn : ¬ P) : b = false :=
  Bool.eq_false_iff.2 (mt h.1 hn)

/-! ### sublists, subsets, least elements -/

theorem ite_sublist {c : Prop} [Decidable c] {l₁ l₂ l : List α} (h₁ : l₁.Sublist l) (h₂ : l₂.Sublist l) :
    (if c then l₁ else l₂).Sublist l := by
  split <;> assumption

theorem subset_of_nodup_of_length_le {l₁ l₂ : List α} (h₁ : l₁.Nodup) (hsub : l₁ ⊆ l₂)
    (hlen : l₂.length ≤ l₁.length) : l₂ ⊆ l₁ := by
  intro x hx
  apply Classical.byContradiction
  intro hn
  have := (List.nodup_cons.2 ⟨hn, h₁⟩).length_le_of_subset (List.cons_subset.2 ⟨hx, hsub⟩)
  simp at this
  omega

/-- with `r` a `≤` or a `≥`, how a statement about a minimum or a maximum becomes one about each element -/
theorem forall_mem_iff_of_least {l : List α} {m : α} {r : α → α → Prop} {P : α → Prop}
    (hm : m ∈ l ∧ ∀ x ∈ l, r m x) (hP : ∀ {x}, r m x → P m → P x) : P m ↔ ∀ x ∈ l, P x :=
  ⟨fun h x hx => hP (hm.2 x hx) h, fun h => h m hm.1⟩

/-! ### what a permutation, or the members alone, decide -/

theorem min?_congr {l l' : List Nat} (h : ∀ x, x ∈ l ↔ x ∈ l') : l.min? = l'.min? :=
  Option.ext fun a => by simp only [List.min?_eq_some_iff, h]

theorem max?_congr {l l' : List Nat} (h : ∀ x, x ∈ l ↔ x ∈ l') : l.max? = l'.max? :=
  Option.ext fun a => by simp only [List.max?_eq_some_iff, h]

theorem eq_of_sorted_of_mem_iff {lt : α → α → Prop} (asymm : ∀ a b, lt a b → ¬ lt b a)
    {l l' : List α} (h : l.Pairwise lt) (h' : l'.Pairwise lt) (hm : ∀ x, x ∈ l ↔ x ∈ l') : l = l' :=
  have nd : ∀ {l : List α}, l.Pairwise lt → l.Nodup := fun h =>
    List.Pairwise.imp (S := (· ≠ ·)) (fun {a b} hab e => asymm a b hab (e ▸ hab)) h
  List.Perm.eq_of_pairwise (fun a b _ _ hab hba => absurd hba (asymm a b hab)) h h'
    ((List.perm_ext_iff_of_nodup (nd h) (nd h')).2 hm)

/-- an insertion into a list, written the way the models write it (walk past the elements `c` puts in front), permutes -/
theorem insert_perm (ins : α → List α → List α) (c : α → α → Prop) [DecidableRel c] (hnil : ∀ x, ins x [] = [x])
    (hcons : ∀ x y ys, ins x (y :: ys) = if c y x then y :: ins x ys else x :: y :: ys) (x : α) (l : List α) :
    (ins x l).Perm (x :: l) := by
  induction l with
  | nil => rw [hnil]
  | cons y ys ih =>
    rw [hcons]
    split
    · exact (ih.cons y).trans (.swap x y ys)
    · exact .refl _

theorem insert_sorted (ins : α → List α → List α) (c : α → α → Prop) [DecidableRel c] (hnil : ∀ x, ins x [] = [x])
    (hcons : ∀ x y ys, ins x (y :: ys) = if c y x then y :: ins x ys else x :: y :: ys)
    (r : α → α → Prop) (tr : ∀ a b d, r a b → r b d → r a d) {x : α} {l : List α}
    (hc : ∀ y ∈ l, c y x → r y x) (hnc : ∀ y ∈ l, ¬ c y x → r x y) (h : l.Pairwise r) :
    (ins x l).Pairwise r := by
  induction l with
  | nil => rw [hnil]; exact List.pairwise_singleton ..
  | cons y ys ih =>
    obtain ⟨hy, hys⟩ := List.pairwise_cons.1 h
    rw [hcons]
    split
    · rename_i hyx
      refine List.pairwise_cons.2
        ⟨fun z hz => ?_, ih (fun z hz => hc z (.tail _ hz)) (fun z hz => hnc z (.tail _ hz)) hys⟩
      rcases List.mem_cons.1 ((insert_perm ins c hnil hcons x ys).mem_iff.1 hz) with rfl | hz
      · exact hc y (.head _) hyx
      · exact hy z hz
    · rename_i hyx
      have hxy := hnc y (.head _) hyx
      exact List.pairwise_cons.2 ⟨List.forall_mem_cons.2 ⟨hxy, fun z hz => tr _ _ _ hxy (hy z hz)⟩, h⟩

theorem foldr_perm_of_insert_perm {ins : α → List α → List α} (h : ∀ x l, (ins x l).Perm (x :: l)) (l : List α) :
    (l.foldr ins []).Perm l := by
  induction l with
  | nil => exact .refl _
  | cons x xs ih => exact (h x _).trans (ih.cons x)

/-- `List.Perm.foldl_eq'` asks the step to commute on every state; here it need only commute on the states of an
    invariant `P` -/
theorem foldl_perm_inv {σ : Type _} (f : σ → α → σ) (P : σ → Prop) (pres : ∀ s a, P s → P (f s a))
    (comm : ∀ s a b, P s → f (f s a) b = f (f s b) a) {l l' : List α} (h : l.Perm l') :
    ∀ s, P s → l.foldl f s = l'.foldl f s := by
  induction h with
  | nil => intro s _; rfl
  | cons a _ ih => intro s hs; exact ih _ (pres s a hs)
  | swap a b l => intro s hs; simp only [List.foldl_cons, comm s b a hs]
  | trans _ _ ih1 ih2 => intro s hs; exact (ih1 s hs).trans (ih2 s hs)

/-! ### `any` / `contains` / `countP` / `erase` -/

theorem any_or (l : List α) (p q : α → Bool) : (l.any p || l.any q) = l.any (fun a => p a || q a) := by
  induction l with
  | nil => rfl
  | cons a as ih => simp only [List.any_cons, ← ih]; ac_rfl

section beq
variable [BEq α] [LawfulBEq α]

theorem contains_or (l : List α) (x y : α) : (l.contains x || l.contains y) = l.any (fun a => a == x || a == y) := by
  rw [← List.any_beq', ← List.any_beq', any_or]

theorem contains_filter_of_pos {l : List α} {P : α → Bool} {x : α} (h : P x = true) :
    (l.filter P).contains x = l.contains x := by
  rw [Bool.eq_iff_iff]; simp [List.mem_filter, h]

theorem erase_eq_filter {P : α → Bool} {x : α} {l : List α} (hx : P x = true) (hc : l.countP P ≤ 1) (hm : x ∈ l) :
    l.erase x = l.filter (fun a => !P a) := by
  obtain ⟨A, B, rfl, hA⟩ := List.eq_append_cons_of_mem hm
  simp only [List.countP_append, List.countP_cons, hx, if_true] at hc
  have hA0 : A.countP P = 0 := by omega
  have hB0 : B.countP P = 0 := by omega
  rw [List.erase_append_right _ hA, List.erase_cons_head, List.filter_append, List.filter_cons,
    List.filter_eq_self.mpr (by simpa using List.countP_eq_zero.mp hA0),
    List.filter_eq_self.mpr (by simpa using List.countP_eq_zero.mp hB0)]
  simp [hx]

/-- of `x` and `y` at most one occurs, and once: erasing both, or `y` only if `x` is absent, removes whichever is there -/
theorem erase_pair_eq_filter {x y : α} {l : List α} (hc : l.countP (fun a => a == x || a == y) ≤ 1) :
    (l.erase x).erase y = l.filter (fun a => !(a == x || a == y)) ∧
    (if x ∈ l then l.erase x else l.erase y) = l.filter (fun a => !(a == x || a == y)) := by
  by_cases hx : x ∈ l
  · rw [if_pos hx, erase_eq_filter (P := fun a => a == x || a == y) (by simp) hc hx,
      List.erase_of_not_mem (by simp [List.mem_filter])]
    exact ⟨rfl, rfl⟩
  · rw [if_neg hx, List.erase_of_not_mem hx]
    by_cases hy : y ∈ l
    · exact ⟨erase_eq_filter (P := fun a => a == x || a == y) (by simp) hc hy,
        erase_eq_filter (P := fun a => a == x || a == y) (by simp) hc hy⟩
    · rw [List.erase_of_not_mem hy, List.filter_eq_self.mpr fun a ha => by
        simp [show a ≠ x from fun e => hx (e ▸ ha), show a ≠ y from fun e => hy (e ▸ ha)]]
      exact ⟨rfl, rfl⟩

theorem erase_eq_filter_of_count_le_one {x : α} {l : List α} (hc : l.count x ≤ 1) :
    l.erase x = l.filter (fun a => !(a == x)) := by
  simpa using (erase_pair_eq_filter (x := x) (y := x) (l := l) (by simpa [List.count_eq_countP] using hc)).2

end beq

/-! ### digits and string literals -/

theorem ofNat_digit : ∀ k, k < 10 → Char.ofNat (48 + k) = Nat.digitChar k := by decide

theorem toNat_ofNat_digit (k : Nat) (h : k < 10) : (Char.ofNat (48 + k)).toNat - 48 = k := by
  rw [ofNat_digit k h, Nat.toNat_digitChar_sub_48_of_lt_ten h]

theorem hms_sum (n : Nat) : n / 3600 * 3600 + n / 60 % 60 * 60 + n % 60 = n := by
  have h1 := Nat.div_add_mod n 60
  have h2 := Nat.div_add_mod (n / 60) 60
  rw [Nat.div_div_eq_div_mul] at h2
  omega

/-- A string literal is `String.ofList` of its characters, so `String.toList_ofList` reads `"…".toList` off with nothing
    evaluated; this is the same for a list of literals.  Evaluating `toList` on a literal decodes its UTF-8, at a cost that
    grows faster than the length: where a statement with literals is evaluated, `simp only [String.reduceToList]` stands in
    front of `decide` and writes them out as characters first (or `decide +kernel`, where the elaborator's evaluation
    ahead of the kernel's is the greater part of the cost). -/
theorem map_toList_ofList (ls : List (List Char)) : (ls.map String.ofList).map String.toList = ls := by
  induction ls with
  | nil => rfl
  | cons l ls ih => rw [List.map_cons, List.map_cons, String.toList_ofList, ih]

end TddaVerif.ListAux
