/-
C05, rounding to a precision: round half to even moves a value by at most one half (`rint_close`); what is said of
`roundTo p` is that fact in units of `1 / 10^p` (`absR_le_div`, `absR_lt_div`).
-/
import TddaVerif.Model.Round

namespace TddaVerif.Props.C05.RoundLemmas
open TddaVerif.Round

/-- `Rat.abs` (by `rfl`), under the name the statements of C05 use -/
def absR (q : Rat) : Rat := if q ≥ 0 then q else -q

theorem absR_le {q c : Rat} : absR q ≤ c ↔ -c ≤ q ∧ q ≤ c := by
  unfold absR; split <;> grind

theorem absR_lt {q c : Rat} : absR q < c ↔ -c < q ∧ q < c := by
  unfold absR; split <;> grind

theorem absR_mul_pos (a : Rat) {P : Rat} (hP : 0 < P) : absR (a * P) = absR a * P := by
  unfold absR
  by_cases ha : 0 ≤ a
  · rw [if_pos ha, if_pos (Rat.mul_nonneg ha (Rat.le_of_lt hP))]
  · have := Rat.mul_lt_mul_of_pos_right (Rat.not_le.mp ha) hP
    rw [Rat.zero_mul] at this
    rw [if_neg ha, if_neg (Rat.not_le.mpr this), Rat.neg_mul]

theorem absR_lt_div {a c P : Rat} (hP : 0 < P) : absR a < c / P ↔ absR (a * P) < c := by
  rw [absR_mul_pos a hP, Rat.lt_div_iff hP]

theorem absR_le_div {a c P : Rat} (hP : 0 < P) : absR a ≤ c / P ↔ absR (a * P) ≤ c := by
  rw [absR_mul_pos a hP, ← Rat.not_lt, ← Rat.not_lt, Rat.div_lt_iff hP]

theorem pow10_pos (p : Nat) : 0 < pow10 p :=
  Rat.natCast_pos.mpr (Nat.pow_pos (by decide))

theorem one_div_two_mul (P : Rat) : 1 / (2 * P) = 1 / 2 / P := by
  grind

theorem rint_close (q : Rat) : absR (rint q - q) ≤ 1 / 2 := by
  have h1 := Rat.floor_le q
  have h2 := Rat.lt_floor_add_one q
  rw [absR_le]
  simp only [rint]
  split
  · grind
  · split
    · grind
    · split <;> grind

theorem rint_near {q : Rat} {k : Int} (h : absR (q - k) < 1 / 2) : rint q = k := by
  -- by `rint_close` the two integers are less than 1 apart
  have h1 := absR_le.mp (rint_close q)
  have h2 := absR_lt.mp h
  have lo : ((k - 1 : Int) : Rat) < rint q := by rw [Rat.intCast_sub]; grind
  have hi : (rint q : Rat) < ((k + 1 : Int) : Rat) := by rw [Rat.intCast_add]; grind
  rw [Rat.intCast_lt_intCast] at lo hi
  omega

theorem roundTo_close (p : Nat) (x : Rat) : absR (roundTo p x - x) ≤ 1 / (2 * pow10 p) := by
  have hP := pow10_pos p
  rw [one_div_two_mul, absR_le_div hP,
    show (roundTo p x - x) * pow10 p = rint (x * pow10 p) - x * pow10 p by unfold roundTo; grind]
  exact rint_close _

theorem roundTo_near (p : Nat) (k : Int) (x : Rat)
    (hx : absR (x - (k : Rat) / pow10 p) < 1 / (2 * pow10 p)) : roundTo p x = (k : Rat) / pow10 p := by
  have hP := pow10_pos p
  rw [one_div_two_mul, absR_lt_div hP, show (x - k / pow10 p) * pow10 p = x * pow10 p - k by grind] at hx
  rw [roundTo, rint_near hx]

theorem roundTo_grid (p : Nat) (k : Int) : roundTo p ((k : Rat) / pow10 p) = (k : Rat) / pow10 p := by
  rw [roundTo, Rat.div_mul_cancel (Rat.ne_of_gt (pow10_pos p)), rint_near (k := k) (by rw [Rat.sub_self]; exact absR_lt.mpr (by grind))]

theorem far_apart_differ (p : Nat) (x y : Rat) (h : absR (x - y) > 1 / pow10 p) : roundTo p x ≠ roundTo p y := by
  intro he
  have hx := roundTo_close p x
  have hy := roundTo_close p y
  -- both lie within half a unit of the common rounded value
  rw [he, one_div_two_mul, Rat.div_def, absR_le] at hx
  rw [one_div_two_mul, Rat.div_def, absR_le] at hy
  rw [Rat.div_def, gt_iff_lt, ← Rat.not_le, absR_le] at h
  grind

theorem cellsEqual_far (p : Nat) (x y : Rat) (h : absR (x - y) > 1 / pow10 p) :
    cellsEqual p (some x) (some y) = false := by
  simp [cellsEqual, far_apart_differ p x y h]

theorem cellsEqual_refl (p : Nat) (x : Option Rat) : cellsEqual p x x = true := by
  cases x <;> simp [cellsEqual]

theorem cellsEqual_null (p : Nat) (x : Rat) : cellsEqual p none (some x) = false ∧ cellsEqual p (some x) none = false := by
  simp [cellsEqual]

theorem cellsEqual_symm (p : Nat) (x y : Option Rat) : cellsEqual p x y = cellsEqual p y x := by
  cases x <;> cases y <;> simp [cellsEqual]
  exact BEq.comm

theorem cellsEqual_near_grid (p : Nat) (k : Int) (x y : Rat)
    (hx : absR (x - (k : Rat) / pow10 p) < 1 / (2 * pow10 p)) (hy : absR (y - (k : Rat) / pow10 p) < 1 / (2 * pow10 p)) :
    cellsEqual p (some x) (some y) = true := by
  simp [cellsEqual, roundTo_near p k x hx, roundTo_near p k y hy]

end TddaVerif.Props.C05.RoundLemmas
