/- The backtracking matcher of rexpy's patterns decides `Matches` (`matchB_iff`), and what it captures is a list of pieces
   accepted fragment by fragment (`PiecesOK`); the coarse and the fine class of a character accept it (`coarse_ok`,
   `fineClass_ok`). -/
import TddaVerif.Model.Rexpy
import TddaVerif.Props.C03Spec
import TddaVerif.Lemmas.PyText

namespace TddaVerif.Props.C03.Lemmas
open TddaVerif.Py TddaVerif.Rexpy TddaVerif.Props.C03

def PiecesOK (T : CharTable) (E : List Char) : Pattern → List Line → Prop
  | [], [] => True
  | f :: fs, g :: gs => fragAccepts T E f g = true ∧ PiecesOK T E fs gs
  | _, _ => False

/-- the `getD` default that the statement of `matchCap_sound` writes out; never reached, the index is below the length -/
def dfltFrag : Frag := ⟨.code ' ', 0, none, false⟩

theorem piecesOK_iff {T : CharTable} {E : List Char} {p : Pattern} {caps : List Line} :
    PiecesOK T E p caps ↔ caps.length = p.length ∧
      ∀ i, i < p.length → fragAccepts T E (p.getD i dfltFrag) (caps.getD i []) = true := by
  induction p generalizing caps with
  | nil => cases caps <;> simp [PiecesOK]
  | cons f fs ih =>
    cases caps with
    | nil => simp [PiecesOK]
    | cons g gs =>
      simp only [PiecesOK, ih, List.length_cons, Nat.add_right_cancel_iff, Nat.forall_lt_succ_left,
        List.getD_cons_zero, List.getD_cons_succ, and_left_comm]

theorem matches_of_piecesOK {T : CharTable} {E : List Char} :
    ∀ {p : Pattern} {caps : List Line}, PiecesOK T E p caps → Matches T E p caps.flatten
  | [], [], _ => Matches.nil
  | f :: fs, g :: gs, h => Matches.cons f fs g gs.flatten h.1 (matches_of_piecesOK h.2)
  | [], _ :: _, h => h.elim
  | _ :: _, [], h => h.elim

theorem piecesOK_of_matches {T : CharTable} {E : List Char} {p : Pattern} {s : Line}
    (h : Matches T E p s) : ∃ caps : List Line, caps.flatten = s ∧ PiecesOK T E p caps := by
  induction h with
  | nil => exact ⟨[], rfl, trivial⟩
  | cons f fs g rest hacc _ ih =>
    obtain ⟨caps, hc, hp⟩ := ih
    exact ⟨g :: caps, by simp [hc], hacc, hp⟩

theorem fragAccepts_iff {T : CharTable} {E : List Char} {f : Frag} (hf : ∀ lit, f.atom ≠ .escStr lit)
    {g : Line} :
    fragAccepts T E f g = true ↔
      f.lo ≤ g.length ∧ (∀ M, f.M = some M → g.length ≤ M) ∧ ∀ c ∈ g, atomChar T E f.atom c = true := by
  unfold fragAccepts
  split
  · exact absurd ‹_› (hf _)
  · cases f.M <;> simp [and_assoc]

theorem le_takeUpTo_iff {p : Char → Bool} {Mx : Nat} {s : Line} {n : Nat} :
    n ≤ takeUpTo p Mx s ↔ n ≤ Mx ∧ n ≤ s.length ∧ ∀ c ∈ s.take n, p c = true := by
  induction Mx generalizing s n with
  | zero => cases n <;> simp [takeUpTo]
  | succ Mx ih =>
    cases s with
    | nil => cases n <;> simp [takeUpTo]
    | cons c cs =>
      cases n with
      | zero => simp
      | succ n =>
        simp only [takeUpTo, List.take_succ_cons, List.mem_cons, forall_eq_or_imp, List.length_cons,
          Nat.add_le_add_iff_right]
        by_cases hc : p c = true
        · simp [hc, ih]
        · simp [hc]

theorem tryCounts_sound {T : CharTable} {E : List Char} {f : Frag} {fs : List Frag} {s : Line}
    {k : Nat} {caps : List Line} (h : tryCounts T E f fs s k = some caps) :
    ∃ j r, j ≤ k ∧ f.lo ≤ j ∧ matchCap T E fs (s.drop j) = some r ∧ caps = s.take j :: r := by
  induction k with
  | zero =>
    rw [tryCounts] at h
    split at h
    · obtain ⟨r, hr, rfl⟩ := Option.map_eq_some_iff.1 h
      exact ⟨0, r, Nat.le_refl 0, Nat.le_of_eq (eq_of_beq ‹_›), hr, rfl⟩
    · cases h
  | succ k ih =>
    rw [tryCounts] at h
    split at h
    · cases h
    · split at h
      · cases h
        exact ⟨k + 1, _, Nat.le_refl _, Nat.le_of_not_lt ‹_›, ‹_›, rfl⟩
      · obtain ⟨j, r, hj, h'⟩ := ih h
        exact ⟨j, r, Nat.le_succ_of_le hj, h'⟩

theorem matchCap_piecesOK {T : CharTable} {E : List Char} {p : Pattern} {s : Line} {caps : List Line}
    (h : matchCap T E p s = some caps) : caps.flatten = s ∧ PiecesOK T E p caps := by
  induction p generalizing s caps with
  | nil =>
    rw [matchCap] at h
    split at h
    · cases h
      exact ⟨(List.isEmpty_iff.1 ‹_›).symm, trivial⟩
    · cases h
  | cons f fs ih =>
    rw [matchCap] at h
    split at h
    · rename_i lit hlit
      split at h
      · rename_i hpre
        obtain ⟨r, hr, rfl⟩ := Option.map_eq_some_iff.1 h
        obtain ⟨h1, h2⟩ := ih hr
        refine ⟨?_, by simp [fragAccepts, hlit], h2⟩
        rw [List.flatten_cons, h1]
        exact List.prefix_iff_eq_append.1 (isPrefix_iff.1 hpre)
      · cases h
    · rename_i hne
      obtain ⟨j, r, hj, hlo, hr, rfl⟩ := tryCounts_sound h
      obtain ⟨h1, h2⟩ := ih hr
      obtain ⟨t1, t2, t3⟩ := le_takeUpTo_iff.1 hj
      refine ⟨by rw [List.flatten_cons, h1, List.take_append_drop], ?_, h2⟩
      rw [fragAccepts_iff hne, List.length_take, Nat.min_eq_left t2]
      refine ⟨hlo, fun M hM => ?_, t3⟩
      rwa [hM] at t1

theorem tryCounts_complete {T : CharTable} {E : List Char} {f : Frag} {fs : List Frag} {s : Line} {j : Nat}
    (hlo : f.lo ≤ j) (hrest : (matchCap T E fs (s.drop j)).isSome = true) {k : Nat} (hk : j ≤ k) :
    (tryCounts T E f fs s k).isSome = true := by
  induction k with
  | zero =>
    obtain rfl : j = 0 := by omega
    rw [tryCounts]
    have : f.lo = 0 := by omega
    simpa [this] using hrest
  | succ k ih =>
    rw [tryCounts, if_neg (by omega)]
    split
    · rfl
    · rename_i hm
      refine ih (Nat.le_of_lt_succ (Nat.lt_of_le_of_ne hk fun e => ?_))
      rw [e, hm] at hrest
      cases hrest

theorem matchCap_sound (T : CharTable) (E : List Char) (p : Pattern) (s : Line) (caps : List Line)
    (h : matchCap T E p s = some caps) :
    caps.flatten = s ∧ caps.length = p.length ∧
    (∀ i, i < p.length → fragAccepts T E (p.getD i ⟨.code ' ', 0, none, false⟩) (caps.getD i []) = true) ∧
    Matches T E p s := by
  obtain ⟨h1, h2⟩ := matchCap_piecesOK h
  obtain ⟨h3, h4⟩ := piecesOK_iff.1 h2
  exact ⟨h1, h3, h4, h1 ▸ matches_of_piecesOK h2⟩

theorem matchCap_complete (T : CharTable) (E : List Char) (p : Pattern) (s : Line)
    (h : Matches T E p s) : (matchCap T E p s).isSome = true := by
  induction h with
  | nil => simp [matchCap]
  | cons f fs g rest hacc _ ih =>
    rw [matchCap]
    split
    · rename_i lit hlit
      simp only [fragAccepts, hlit, beq_iff_eq] at hacc
      subst hacc
      simp [isPrefixStr, isPrefix_iff.2 (List.prefix_append _ _), ih]
    · rename_i hne
      rw [fragAccepts_iff hne] at hacc
      obtain ⟨a1, a2, a3⟩ := hacc
      apply tryCounts_complete (j := g.length) a1 (by simpa using ih)
      refine le_takeUpTo_iff.2 ⟨?_, by simp, by simpa using a3⟩
      split
      · rename_i M hM; exact a2 M hM
      · simp

theorem matchB_iff {T : CharTable} {E : List Char} {p : Pattern} {s : Line} :
    matchB T E p s = true ↔ Matches T E p s :=
  ⟨fun h => by
    obtain ⟨caps, hc⟩ := Option.isSome_iff_exists.1 h
    exact (matchCap_sound T E p s caps hc).2.2.2, matchCap_complete T E p s⟩

theorem matches_of_pieces (T : CharTable) (E : List Char) (p : Pattern) (caps : List Line)
    (hl : caps.length = p.length)
    (h : ∀ i, i < p.length → fragAccepts T E (p.getD i ⟨.code ' ', 0, none, false⟩) (caps.getD i []) = true) :
    Matches T E p caps.flatten :=
  matches_of_piecesOK (piecesOK_iff.2 ⟨hl, h⟩)

theorem pieces_of_matches (T : CharTable) (E : List Char) (p : Pattern) (s : Line) (h : Matches T E p s) :
    ∃ caps : List Line, caps.flatten = s ∧ caps.length = p.length ∧
      ∀ i, i < p.length → fragAccepts T E (p.getD i ⟨.code ' ', 0, none, false⟩) (caps.getD i []) = true := by
  obtain ⟨caps, h1, h2⟩ := piecesOK_of_matches h
  exact ⟨caps, h1, piecesOK_iff.1 h2⟩

theorem matches_single_iff {T : CharTable} {E : List Char} {f : Frag} {g : Line} :
    Matches T E [f] g ↔ fragAccepts T E f g = true := by
  constructor
  · intro h
    cases h with
    | cons _ _ g' rest hg hrest => cases hrest; simpa using hg
  · intro h
    simpa using Matches.cons f [] g [] h Matches.nil

theorem matches_append {T : CharTable} {E : List Char} {p q : Pattern} {s t : Line}
    (hp : Matches T E p s) (hq : Matches T E q t) : Matches T E (p ++ q) (s ++ t) := by
  induction hp with
  | nil => simpa using hq
  | cons f fs g rest hacc _ ih =>
    rw [List.cons_append, List.append_assoc]
    exact Matches.cons f (fs ++ q) g (rest ++ t) hacc ih

theorem piecesOK_append {T : CharTable} {E : List Char} {p q : Pattern} {r : List Line}
    (h : PiecesOK T E (p ++ q) r) : ∃ r1 r2, r = r1 ++ r2 ∧ PiecesOK T E p r1 ∧ PiecesOK T E q r2 := by
  induction p generalizing r with
  | nil => exact ⟨[], r, rfl, trivial, by simpa using h⟩
  | cons f fs ih =>
    cases r with
    | nil => simp [PiecesOK] at h
    | cons g gs =>
      simp only [List.cons_append, PiecesOK] at h
      obtain ⟨r1, r2, rfl, h1, h2⟩ := ih h.2
      exact ⟨g :: r1, r2, rfl, ⟨h.1, h1⟩, h2⟩

theorem matches_append_inv {T : CharTable} {E : List Char} {p q : Pattern} {s : Line}
    (h : Matches T E (p ++ q) s) : ∃ s1 s2, s = s1 ++ s2 ∧ Matches T E p s1 ∧ Matches T E q s2 := by
  obtain ⟨r, rfl, hr⟩ := piecesOK_of_matches h
  obtain ⟨r1, r2, rfl, h1, h2⟩ := piecesOK_append hr
  exact ⟨_, _, List.flatten_append, matches_of_piecesOK h1, matches_of_piecesOK h2⟩

section cats

variable (T : CharTable) (E : List Char) (c : Char)

theorem inCat_cLETTER : inCat T E cLETTER c = asciiUpper c := rfl
theorem inCat_cletter : inCat T E cletter c = asciiLower c := rfl
theorem inCat_cLETTER_ : inCat T E cLETTER_ c = (asciiUpper c || E.contains c) := rfl
theorem inCat_cULetter_ : inCat T E cULetter_ c =
    ((T.w c && !asciiDigit c && (c != '_' || E.contains '_')) || (E.filter (· != '_')).contains c) := rfl
theorem inCat_cDigit : inCat T E cDigit c = T.d c := rfl
theorem inCat_cUAlpha : inCat T E cUAlpha c =
    ((T.w c && (c != '_' || E.contains '_')) || (E.filter (· != '_')).contains c) := rfl
theorem inCat_cWhite : inCat T E cWhite c = T.s c := rfl
theorem inCat_cPunc : inCat T E cPunc c =
    (32 ≤ c.toNat && c.toNat ≤ 126 &&
      !(asciiUpper c || asciiLower c || asciiDigit c || T.s c || E.contains c)) := rfl
theorem inCat_cOther : inCat T E cOther c = (!(33 ≤ c.toNat && c.toNat ≤ 126) && !T.s c) := rfl
theorem inCat_cAny : inCat T E cAny c = true := rfl

end cats

theorem mem_normExtras (E : List Char) (hE : E = normExtras E) (c : Char) (h : c ∈ E) :
    c = '_' ∨ c = '.' ∨ c = '-' := by
  rw [hE] at h
  simp only [normExtras, List.mem_filter, List.mem_cons, List.not_mem_nil, or_false] at h
  exact h.1

theorem inCat_cUAlpha_of {T : CharTable} (hT : Consistent T) {E : List Char} {c : Char}
    (h : asciiUpper c = true ∨ asciiLower c = true ∨ asciiDigit c = true ∨ c ∈ E) : inCat T E cUAlpha c = true := by
  rw [inCat_cUAlpha]
  by_cases hE : c ∈ E
  · by_cases hu : c = '_'
    · subst hu; simp [hT.1 '_', hE]
    · simp [hE, hu]
  · have hl : asciiUpper c = true ∨ asciiLower c = true ∨ asciiDigit c = true := by simpa [hE] using h
    have hu : c ≠ '_' := by rintro rfl; revert hl; decide
    simp [hT.1 c (by simpa [hu] using hl), hu]

theorem coarse_ok {T : CharTable} (hT : Consistent T) (E : List Char) (c : Char) :
    inCat T E (coarse T E c) c = true := by
  unfold coarse
  by_cases h1 : inCat T E cUAlpha c = true
  · rwa [if_pos h1]
  rw [if_neg h1]
  by_cases h2 : inCat T E cWhite c = true
  · rwa [if_pos h2]
  rw [if_neg h2]
  by_cases h3 : inCat T E cPunc c = true
  · rwa [if_pos h3]
  -- a printable character that is neither alphanumeric nor white is punctuation
  rw [if_neg h3, inCat_cOther]
  have hna := mt (inCat_cUAlpha_of hT) h1
  simp only [not_or, Bool.not_eq_true] at hna
  rw [inCat_cWhite, Bool.not_eq_true] at h2
  rw [inCat_cPunc] at h3
  have hout : ¬ (32 ≤ c.toNat ∧ c.toNat ≤ 126) := by simpa [hna, h2] using h3
  have : c.toNat < 33 ∨ 126 < c.toNat := by omega
  simpa [h2] using this

theorem coarse_sound (T : CharTable) (hT : Consistent T) (E : List Char) (hE : E = normExtras E) (c : Char) :
    inCat T E (coarse T E c) c = true := by
  have _ := hE  -- not needed
  exact coarse_ok hT E c

theorem fineClass_ok {T : CharTable} (hT : Consistent T) {E : List Char} {c : Char}
    (hc : inCat T E cUAlpha c = true) : inCat T E (fineClass T E c) c = true := by
  unfold fineClass
  by_cases hd : T.d c = true
  · rw [if_pos hd, inCat_cDigit, hd]
  rw [if_neg hd]
  by_cases hl : asciiLower c = true
  · rw [if_pos hl, inCat_cletter, hl]
  rw [if_neg hl]
  by_cases hu : asciiUpper c = true
  · rw [if_pos hu, inCat_cLETTER, hu]
  rw [if_neg hu]
  by_cases hE : E.contains c = true
  · rw [if_pos hE, inCat_cLETTER_, hE, Bool.or_true]
  rw [if_neg hE, inCat_cULetter_]
  rw [inCat_cUAlpha] at hc
  have hnd : asciiDigit c = false := Bool.eq_false_iff.2 fun h => hd (hT.2.1 c h)
  simpa [hnd] using hc

theorem fineClass_sound (T : CharTable) (hT : Consistent T) (E : List Char) (hE : E = normExtras E) (c : Char)
    (hc : inCat T E cUAlpha c = true) : inCat T E (fineClass T E c) c = true := by
  have _ := hE  -- not needed
  exact fineClass_ok hT hc

end TddaVerif.Props.C03.Lemmas
