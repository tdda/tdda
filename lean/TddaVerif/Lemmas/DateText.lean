/-
`get_date (str (datetime))` gives the datetime back. `pad k n` is `k` digits of value `n % 10 ^ k`, so the scanners of the
naive layouts read the fields back from the front (`getNaiveL_strNaive`); the UTC offset is read from the end: the naive text
has no sign where an offset would have one (`splitOffset_strNaive`) and ends in `:dd` or `:dd.dddddd`, as RTZ wants of what
stands before an offset (`splitOffset_strAware`).
-/
import TddaVerif.Model.TddaFile
import TddaVerif.Lemmas.ListAux
namespace TddaVerif.Props.C09.Aux
open TddaVerif.Py TddaVerif.TddaFile

theorem isDigit_digitChar (n : Nat) : isDigit (digitChar n) = true :=
  (by decide : ∀ m, m < 10 → isDigit (Char.ofNat (48 + m)) = true) (n % 10) (Nat.mod_lt _ (by omega))

theorem toNat_digitChar (n : Nat) : (digitChar n).toNat - 48 = n % 10 :=
  ListAux.toNat_ofNat_digit (n % 10) (Nat.mod_lt _ (by omega))

theorem length_pad (k n : Nat) : (pad k n).length = k := by
  induction k generalizing n with
  | zero => rfl
  | succ k ih => simp [pad, ih]

theorem all_pad (k n : Nat) : (pad k n).all isDigit = true := by
  induction k generalizing n with
  | zero => rfl
  | succ k ih =>
    rw [pad, List.all_append, ih]
    simp [isDigit_digitChar]

theorem natOfDigits_snoc (l : Line) (c : Char) :
    natOfDigits (l ++ [c]) = 10 * natOfDigits l + (c.toNat - 48) := by
  simp [natOfDigits, List.foldl_append]

theorem natOfDigits_pad (k n : Nat) : natOfDigits (pad k n) = n % 10 ^ k := by
  induction k generalizing n with
  | zero => simp [pad, natOfDigits, Nat.mod_one]
  | succ k ih =>
    rw [pad, natOfDigits_snoc, ih, toNat_digitChar, Nat.pow_succ', Nat.mod_mul]
    exact Nat.add_comm _ _

theorem takeExact_pad (k n : Nat) (rest : Line) :
    takeExact k (pad k n ++ rest) = some (n % 10 ^ k, rest) := by
  have hl := length_pad k n
  simp only [takeExact, List.take_left' hl, List.drop_left' hl, hl, all_pad, natOfDigits_pad, beq_self_eq_true,
    Bool.and_self, if_true]

theorem takeDigits_pad {k n : Nat} (hk : 0 < k) {c : Char} {rest : Line} (hc : isDigit c = false) :
    takeDigits k (pad k n ++ c :: rest) = some (n % 10 ^ k, c :: rest) := by
  have hl := length_pad k n
  have hne : (pad k n).isEmpty = false := by
    rw [List.isEmpty_eq_false_iff, ← List.length_pos_iff, hl]; exact hk
  simp only [takeDigits, ListAux.takeWhile_append_cons (List.all_eq_true.1 (all_pad k n)) hc,
    List.take_of_length_le (Nat.le_of_eq hl), hne, hl, List.drop_left' hl, natOfDigits_pad]
  rfl

theorem parseDatePart_pad (y mo d : Nat) {c : Char} (hc : isDigit c = false) (rest : Line) :
    parseDatePart (pad 4 y ++ '-' :: (pad 2 mo ++ '-' :: (pad 2 d ++ c :: rest))) =
      some (y % 10000, mo % 100, d % 100, c :: rest) := by
  have h1 : isDigit '-' = false := by decide
  have h0 : 0 < 2 := by decide
  simp [parseDatePart, takeExact_pad, expectOneOf, takeDigits_pad h0 h1, takeDigits_pad h0 hc]

theorem parseTimePart_pad (h mi s : Nat) (rest : Line) :
    parseTimePart (' ' :: (pad 2 h ++ ':' :: (pad 2 mi ++ ':' :: (pad 2 s ++ rest)))) =
      some (h % 100, mi % 100, s % 100, rest) := by
  have h1 : isDigit ':' = false := by decide
  simp [parseTimePart, takeExact_pad, expectOneOf, takeDigits_pad (by decide : 0 < 2) h1]

theorem strNaive_eq (t : Naive) :
    strNaive t = pad 4 t.y ++ '-' :: (pad 2 t.mo ++ '-' :: (pad 2 t.d ++ ' ' ::
      (pad 2 t.h ++ ':' :: (pad 2 t.mi ++ ':' :: (pad 2 t.s ++
        (if t.us == 0 then [] else '.' :: pad 6 t.us)))))) := by
  simp only [strNaive, List.append_assoc, List.cons_append, List.nil_append]

theorem daysInMonth_le (y m : Nat) : daysInMonth y m ≤ 31 := by
  unfold daysInMonth
  split <;> split <;> decide

theorem getNaiveL_strNaive {t : Naive} (h : t.valid = true) : getNaiveL (strNaive t) = (.ok t, false) := by
  obtain ⟨y, mo, d, hh, mi, s, us⟩ := t
  have hv := h
  simp only [Naive.valid, Bool.and_eq_true, decide_eq_true_eq] at hv
  obtain ⟨⟨⟨⟨⟨⟨⟨⟨⟨_, hy⟩, _⟩, hmo⟩, _⟩, hd⟩, hh'⟩, hmi⟩, hs⟩, hus⟩ := hv
  -- every field fits its width, so the digits read back give the field
  have fit {n b : Nat} (m : Nat) (hn : n ≤ b) (hb : b < m := by decide) : n % m = n :=
    Nat.mod_eq_of_lt (Nat.lt_of_le_of_lt hn hb)
  rw [strNaive_eq]
  simp only [getNaiveL, parseDatePart_pad _ _ _ (by decide : isDigit ' ' = false), parseTimePart_pad, fit 10000 hy,
    fit 100 hmo, fit 100 (Nat.le_trans hd (daysInMonth_le y mo)), fit 100 hh', fit 100 hmi, fit 100 hs]
  by_cases h0 : us = 0
  · subst h0
    simp [h]
  · have hne : (pad 6 us).isEmpty = false := rfl
    simp [h0, ListAux.takeWhile_eq_self (List.all_eq_true.1 (all_pad 6 us)), hne, length_pad, natOfDigits_pad,
      fit 1000000 hus, h]

theorem pad_two (n : Nat) : pad 2 n = [digitChar (n / 10), digitChar n] := by
  simp [pad]

theorem natOfDigits_two {n : Nat} (h : n < 100) : natOfDigits [digitChar (n / 10), digitChar n] = n := by
  rw [← pad_two, natOfDigits_pad]; exact Nat.mod_eq_of_lt h

theorem ne_sign_of_isDigit {c : Char} (h : isDigit c = true) : c ≠ '+' ∧ c ≠ '-' := by
  constructor <;> (rintro rfl; revert h; decide)

theorem not_mem_pad {c : Char} (hc : isDigit c = false) (k n : Nat) : ¬ c ∈ pad k n := fun hm =>
  Bool.false_ne_true (hc ▸ List.all_eq_true.mp (all_pad k n) c hm)

theorem nl_not_mem_strNaive (t : Naive) : ¬ '\n' ∈ strNaive t := by
  have := not_mem_pad (c := '\n') (by decide)
  rw [strNaive_eq]
  split <;> simp [this]

theorem nl_not_mem_strOffset (o : Int) : ¬ '\n' ∈ strOffset o := by
  have := not_mem_pad (c := '\n') (by decide)
  unfold strOffset
  split <;> split <;> simp [this]

theorem splitOffset_of_noNl {s : Line} (hn : ¬ '\n' ∈ s) :
    splitOffset s = splitOffsetEnd s := by
  have hl : (s.getLast? == some '\n') = false := by
    cases hg : s.getLast? with
    | none => rfl
    | some c =>
      have : c ≠ '\n' := fun e => hn (e ▸ List.mem_of_getLast? hg)
      simp [this]
  simp [splitOffset, hl, hn]

theorem splitOffset6_append (body : Line) (sg h1 h2 c m1 m2 : Char) :
    splitOffset6 (body ++ [sg, h1, h2, c, m1, m2]) =
      if (sg == '+' || sg == '-') && isDigit h1 && isDigit h2 && c == ':' && isDigit m1 && isDigit m2 &&
         endsWithSeconds body then
        some (body, if sg == '-' then -((natOfDigits [h1, h2] * 3600 + natOfDigits [m1, m2] * 60 : Nat) : Int)
          else ((natOfDigits [h1, h2] * 3600 + natOfDigits [m1, m2] * 60 : Nat) : Int))
      else none := by
  rw [splitOffset6, List.reverse_append]
  simp only [List.reverse_cons, List.reverse_nil, List.nil_append, List.cons_append, List.reverse_reverse]

theorem splitOffset9_append (body : Line) (sg h1 h2 c m1 m2 c2 s1 s2 : Char) :
    splitOffset9 (body ++ [sg, h1, h2, c, m1, m2, c2, s1, s2]) =
      if (sg == '+' || sg == '-') && isDigit h1 && isDigit h2 && c == ':' && isDigit m1 && isDigit m2 && c2 == ':' &&
         isDigit s1 && isDigit s2 && endsWithSeconds body then
        some (body, if sg == '-' then -((natOfDigits [h1, h2] * 3600 + natOfDigits [m1, m2] * 60 + natOfDigits [s1, s2] : Nat) : Int)
          else ((natOfDigits [h1, h2] * 3600 + natOfDigits [m1, m2] * 60 + natOfDigits [s1, s2] : Nat) : Int))
      else none := by
  rw [splitOffset9, List.reverse_append]
  simp only [List.reverse_cons, List.reverse_nil, List.nil_append, List.cons_append, List.reverse_reverse]

theorem splitOffset9_of_sixth_ne_colon {body : Line} {sg h1 h2 c m1 m2 : Char} (hs : sg ≠ ':') :
    splitOffset9 (body ++ [sg, h1, h2, c, m1, m2]) = none := by
  have hr : (body ++ [sg, h1, h2, c, m1, m2]).reverse = m2 :: m1 :: c :: h2 :: h1 :: sg :: body.reverse := by simp
  unfold splitOffset9
  rw [hr]
  rcases body.reverse with _ | ⟨x, _ | ⟨y, _ | ⟨z, r⟩⟩⟩ <;> simp [hs]

theorem splitOffsetEnd_none {body : Line} {x9 c8 c7 x6 c5 c4 c3 c2 c1 : Char}
    (h9 : x9 ≠ '+' ∧ x9 ≠ '-') (h6 : x6 ≠ '+' ∧ x6 ≠ '-') :
    splitOffsetEnd (body ++ [x9, c8, c7, x6, c5, c4, c3, c2, c1]) = none := by
  have e : body ++ [x9, c8, c7, x6, c5, c4, c3, c2, c1] = (body ++ [x9, c8, c7]) ++ [x6, c5, c4, c3, c2, c1] := by
    simp
  unfold splitOffsetEnd
  rw [splitOffset9_append, e, splitOffset6_append]
  simp [h9, h6]

theorem endsWithSeconds_tail {P F : Line} {a b : Char} (ha : isDigit a = true) (hb : isDigit b = true)
    (hF : F = [] ∨ ∃ ds, F = '.' :: ds ∧ ds ≠ [] ∧ ds.all isDigit = true) :
    endsWithSeconds (P ++ ':' :: a :: b :: F) = true := by
  rcases hF with rfl | ⟨ds, rfl, hne, hds⟩
  · have hr : (P ++ [':', a, b]).reverse = b :: a :: ':' :: P.reverse := by simp
    simp only [endsWithSeconds, hr, ha, hb, Bool.and_self, Bool.true_or]
  · have hr : (P ++ ':' :: a :: b :: '.' :: ds).reverse = ds.reverse ++ '.' :: b :: a :: ':' :: P.reverse := by
      simp only [List.reverse_append, List.reverse_cons, List.append_assoc, List.cons_append, List.nil_append]
    have htw : (ds.reverse ++ '.' :: b :: a :: ':' :: P.reverse).takeWhile isDigit = ds.reverse :=
      ListAux.takeWhile_append_cons (fun c hc => List.all_eq_true.1 hds c (List.mem_reverse.1 hc)) (by decide) _
    have hemp : ds.reverse.isEmpty = false := by rwa [List.isEmpty_reverse, List.isEmpty_eq_false_iff]
    simp only [endsWithSeconds, hr, htw, List.drop_left, hemp, ha, hb, Bool.and_self, Bool.or_true,
      Bool.false_eq_true, if_false]

theorem strNaive_shape (t : Naive) : ∃ (D F : Line) (h1 h2 m1 m2 s1 s2 : Char),
    strNaive t = D ++ ' ' :: h1 :: h2 :: ':' :: m1 :: m2 :: ':' :: s1 :: s2 :: F ∧
    isDigit s1 = true ∧ isDigit s2 = true ∧
    (F = [] ∨ ∃ f1 f2 f3 f4 f5 f6, F = ['.', f1, f2, f3, f4, f5, f6] ∧
      [f1, f2, f3, f4, f5, f6].all isDigit = true) := by
  refine ⟨pad 4 t.y ++ '-' :: (pad 2 t.mo ++ '-' :: pad 2 t.d), if t.us == 0 then [] else '.' :: pad 6 t.us,
    digitChar (t.h / 10), digitChar t.h, digitChar (t.mi / 10), digitChar t.mi, digitChar (t.s / 10), digitChar t.s,
    ?_, isDigit_digitChar _, isDigit_digitChar _, ?_⟩
  · simp only [strNaive_eq, pad_two, List.append_assoc, List.cons_append, List.nil_append]
  · split
    · exact .inl rfl
    · exact .inr ⟨_, _, _, _, _, _, rfl, all_pad 6 t.us⟩

theorem endsWithSeconds_strNaive (t : Naive) : endsWithSeconds (strNaive t) = true := by
  obtain ⟨D, F, h1, h2, m1, m2, s1, s2, e, hs1, hs2, hF⟩ := strNaive_shape t
  have e' : strNaive t = (D ++ [' ', h1, h2, ':', m1, m2]) ++ ':' :: s1 :: s2 :: F := by simp [e]
  rw [e']
  refine endsWithSeconds_tail hs1 hs2 (hF.imp_right ?_)
  rintro ⟨f1, f2, f3, f4, f5, f6, rfl, hall⟩
  exact ⟨_, rfl, by simp, hall⟩

theorem splitOffset_strNaive (t : Naive) : splitOffset (strNaive t) = none := by
  rw [splitOffset_of_noNl (nl_not_mem_strNaive t)]
  obtain ⟨D, F, h1, h2, m1, m2, s1, s2, e, hs1, _, hF⟩ := strNaive_shape t
  rw [e]
  -- the ninth and the sixth character from the end are the blank and a colon, or, with a fraction, digits
  rcases hF with rfl | ⟨f1, f2, f3, f4, f5, f6, rfl, hall⟩
  · exact splitOffsetEnd_none (by decide) (by decide)
  · have e9 : D ++ ' ' :: h1 :: h2 :: ':' :: m1 :: m2 :: ':' :: s1 :: s2 :: ['.', f1, f2, f3, f4, f5, f6] =
        (D ++ [' ', h1, h2, ':', m1, m2, ':']) ++ [s1, s2, '.', f1, f2, f3, f4, f5, f6] := by simp
    rw [e9]
    exact splitOffsetEnd_none (ne_sign_of_isDigit hs1)
      (ne_sign_of_isDigit (List.all_eq_true.1 hall f1 List.mem_cons_self))

theorem splitOffsetEnd_offset {body : Line} (hb : endsWithSeconds body = true) {sg : Char} (hsg : sg = '+' ∨ sg = '-')
    {H M S : Nat} (hH : H < 100) (hM : M < 100) (hS : S < 100) :
    splitOffsetEnd (body ++ sg :: (pad 2 H ++ ':' :: pad 2 M) ++ (if S = 0 then [] else ':' :: pad 2 S)) =
      some (body, if sg == '-' then -((H * 3600 + M * 60 + S : Nat) : Int) else ((H * 3600 + M * 60 + S : Nat) : Int)) := by
  have hs : (sg == '+' || sg == '-') = true := by rcases hsg with rfl | rfl <;> decide
  have hsc : sg ≠ ':' := by rcases hsg with rfl | rfl <;> decide
  unfold splitOffsetEnd
  by_cases hz : S = 0
  · have e : body ++ sg :: (pad 2 H ++ ':' :: pad 2 M) ++ (if S = 0 then [] else ':' :: pad 2 S) =
        body ++ [sg, digitChar (H / 10), digitChar H, ':', digitChar (M / 10), digitChar M] := by simp [pad_two, hz]
    rw [e, splitOffset9_of_sixth_ne_colon hsc, splitOffset6_append]
    simp [hs, hb, isDigit_digitChar, natOfDigits_two, hH, hM, hz]
  · have e : body ++ sg :: (pad 2 H ++ ':' :: pad 2 M) ++ (if S = 0 then [] else ':' :: pad 2 S) =
        body ++ [sg, digitChar (H / 10), digitChar H, ':', digitChar (M / 10), digitChar M, ':',
          digitChar (S / 10), digitChar S] := by simp [pad_two, hz]
    rw [e, splitOffset9_append]
    simp [hs, hb, isDigit_digitChar, natOfDigits_two, hH, hM, hS]

theorem splitOffset_strAware (t : Naive) {o : Int} (h1 : -86400 < o) (h2 : o < 86400) :
    splitOffset (strNaive t ++ strOffset o) = some (strNaive t, o) := by
  have hn : ¬ '\n' ∈ strNaive t ++ strOffset o := by
    simp [nl_not_mem_strNaive, nl_not_mem_strOffset]
  have hH : o.natAbs / 3600 < 100 := by omega
  rw [splitOffset_of_noNl hn, strOffset, ← List.append_assoc,
    splitOffsetEnd_offset (endsWithSeconds_strNaive t) (by split <;> simp) hH (by omega) (by omega), ListAux.hms_sum]
  by_cases ho : o < 0
  · simp [ho]; omega
  · simp [ho]; omega

theorem getDate_strDatetime (t : Civil) (h : t.valid = true) : getDate (strDatetime t) = .ok t := by
  obtain ⟨n, off⟩ := t
  cases off with
  | none =>
    have hv : n.valid = true := by simpa [Civil.valid] using h
    simp [getDate, strDatetime, splitOffset_strNaive n, getNaive, getNaiveL_strNaive hv]
  | some o =>
    have hv : n.valid = true ∧ -86400 < o ∧ o < 86400 := by simpa [Civil.valid] using h
    simp [getDate, strDatetime, splitOffset_strAware n hv.2.1 hv.2.2, getNaiveL_strNaive hv.1, hv.2.1, hv.2.2]

end TddaVerif.Props.C09.Aux
