/- Proofs about Model/DetectOut.lean: `mem_written` says which rows are written; the rest follows from it. -/
import TddaVerif.Model.DetectOut

namespace TddaVerif.DetectOut.Lemmas
open TddaVerif.DetectOut

theorem numberFrom_eq (k : Nat) (l : List Nat) :
    numberFrom k l = (l.zipIdx k).map (fun p => (p.2, p.1)) := by
  induction l generalizing k with
  | nil => rfl
  | cons x xs ih => simp [numberFrom, ih]

theorem mem_numberFrom {k : Nat} {l : List Nat} {r v : Nat} :
    (r, v) ∈ numberFrom k l ↔ k ≤ r ∧ l[r - k]? = some v := by
  rw [numberFrom_eq, ← List.mk_mem_zipIdx_iff_le_and_getElem?_sub, List.mem_map]
  exact ⟨by rintro ⟨⟨_, _⟩, h, ⟨⟩⟩; exact h, fun h => ⟨_, h, rfl⟩⟩

theorem numberFrom_sorted (k : Nat) (l : List Nat) : (numberFrom k l).Pairwise (fun a b => a.1 < b.1) := by
  induction l generalizing k with
  | nil => simp [numberFrom]
  | cons x xs ih =>
    refine List.pairwise_cons.mpr ⟨fun p hp => ?_, ih (k + 1)⟩
    have := (mem_numberFrom.mp hp).1
    show k < p.1
    omega

theorem mem_written {nf : List Nat} {wa : Bool} {r v : Nat} :
    (r, v) ∈ written nf wa ↔ (1 ≤ r ∧ nf[r - 1]? = some v) ∧ (wa = true ∨ v > 0) := by
  unfold written
  split
  · rename_i hw; simp [mem_numberFrom, hw]
  · rename_i hw; simp [List.mem_filter, mem_numberFrom, hw]

theorem written_rows_are_positions (nf : List Nat) (wa : Bool) (r v : Nat) (h : (r, v) ∈ written nf wa) :
    1 ≤ r ∧ r ≤ nf.length ∧ nf[r - 1]? = some v := by
  obtain ⟨⟨h1, h2⟩, _⟩ := mem_written.mp h
  have := (List.getElem?_eq_some_iff.mp h2).1
  exact ⟨h1, by omega, h2⟩

theorem written_failing (nf : List Nat) (r v : Nat) (h : (r, v) ∈ written nf false) : v > 0 := by
  simpa using (mem_written.mp h).2

theorem failing_written (nf : List Nat) (wa : Bool) (i v : Nat) (hv : nf[i]? = some v) (h : wa = true ∨ v > 0) :
    (i + 1, v) ∈ written nf wa :=
  mem_written.mpr ⟨⟨by omega, by simpa using hv⟩, h⟩

theorem written_sorted (nf : List Nat) (wa : Bool) : (written nf wa).Pairwise (fun a b => a.1 < b.1) := by
  unfold written
  split
  · exact numberFrom_sorted 1 nf
  · exact (numberFrom_sorted 1 nf).filter _

end TddaVerif.DetectOut.Lemmas
