/-
What `check_strings` computes (Model/CheckStrings.lean), and from it the theorems of C04.
The first part is shared with the artefact theorems of C15 (Lemmas/Artefacts.lean): `wrong_content` in closed
form, and `checkStrings` as a record of that when both sides keep equally many lines.
-/
import TddaVerif.Model.CheckStrings
import TddaVerif.Props.C04Spec
import TddaVerif.Lemmas.SortLines
import TddaVerif.Lemmas.ListAux

namespace TddaVerif.CheckStrings
open TddaVerif.Py TddaVerif.Props.C04

/-- the hypothesis is what `split` leaves of `if !o.removeLines.isEmpty` -/
theorem removable_of_isEmpty {o : Opts} (h : ¬(!o.removeLines.isEmpty) = true) (x : Line) :
    removable o x = false := by
  have : o.removeLines = [] := by simpa using h
  simp [removable, this]

abbrev survives (o : Opts) : Line → Bool := fun x => !removable o x

theorem kept_def (o : Opts) (l : List Line) : kept o l = (dropTrailingEmpty l).filter (survives o) := rfl

theorem dropTrailingEmpty_id {l : List Line} (h : l.getLast? ≠ some []) : dropTrailingEmpty l = l := by
  unfold dropTrailingEmpty
  split
  · contradiction
  · rfl

theorem kept_of_removeLines_nil {o : Opts} (ho : o.removeLines = []) {l : List Line} (h : l.getLast? ≠ some []) :
    kept o l = l := by
  simp [kept_def, dropTrailingEmpty_id h, removable, ho]

/-- the after-removal list of `check_strings` is `kept` -/
theorem kept_eq (o : Opts) (l : List Line) :
    kept o l = if !o.removeLines.isEmpty then
      (survivorIdx o (dropTrailingEmpty l)).map (fun i => (dropTrailingEmpty l).getD i []) else dropTrailingEmpty l := by
  rw [kept_def]
  split
  · exact (ListAux.filter_range_map_getD (survives o) [] _).symm
  · rename_i h
    exact List.filter_eq_self.mpr fun x _ => by simp [removable_of_isEmpty h]

/-- the removed positions as `check_strings` computes them -/
def remIdx (o : Opts) (l : List Line) : List Nat :=
  if !o.removeLines.isEmpty then removalIdx o l else []

/-- the position map as `check_strings` computes it: after-removal position to original position -/
def idxMap (o : Opts) (l : List Line) : Nat → Nat :=
  fun k => if !o.removeLines.isEmpty then (survivorIdx o l).getD k k else k

def ignAt (o : Opts) (pat : PatFn) (A E : List Line) (i : Nat) : Bool :=
  canIgnore o pat (A.getD i []) (E.getD i [])

def tripleAt (A E : List Line) (i : Nat) : Nat × Line × Line := (i, A.getD i [], E.getD i [])

/-- the body of the loop of `wrongContent` (which is `foldl` of it, by `rfl`) -/
def wcStep (o : Opts) (pat : PatFn) (A E : List Line) (am em : Nat → Nat) (st : WC) (i : Nat) : WC :=
  if ignAt o pat A E i then
    { st with ndiffs := st.ndiffs - 1, aIgn := st.aIgn ++ [am i], eIgn := st.eIgn ++ [em i] }
  else
    { st with firstLine := (match st.firstLine with | none => some (i + 1) | some l => some l),
              cases := if st.cases.length < o.maxPerm then st.cases ++ [tripleAt A E i] else st.cases }

theorem foldl_wcStep (o : Opts) (pat : PatFn) (A E : List Line) (am em : Nat → Nat) (ds : List Nat) (st : WC) :
    ds.foldl (wcStep o pat A E am em) st =
      { ndiffs := st.ndiffs - (ds.filter (ignAt o pat A E)).length
        firstLine := st.firstLine.or ((ds.filter (!ignAt o pat A E ·)).head?.map (· + 1))
        cases := st.cases ++ (((ds.filter (!ignAt o pat A E ·)).map (tripleAt A E)).take (o.maxPerm - st.cases.length))
        aIgn := st.aIgn ++ (ds.filter (ignAt o pat A E)).map am
        eIgn := st.eIgn ++ (ds.filter (ignAt o pat A E)).map em } := by
  induction ds generalizing st with
  | nil => simp
  | cons i ds ih =>
    rw [List.foldl_cons, ih]
    cases h : ignAt o pat A E i <;> simp [wcStep, h]
    · -- not ignored
      refine ⟨by cases st.firstLine <;> simp, ?_⟩
      split
      · rw [show o.maxPerm - st.cases.length = o.maxPerm - (st.cases.length + 1) + 1 by omega]
        simp
      · rw [show o.maxPerm - st.cases.length = 0 by omega]
        simp
    · -- ignored
      rw [Nat.sub_sub, Nat.add_comm]

theorem wrongContent_eq (o : Opts) (pat : PatFn) (A E : List Line) (am em : Nat → Nat) (ds : List Nat) :
    wrongContent o pat A E am em ds =
      { ndiffs := (ds.filter (!ignAt o pat A E ·)).length
        firstLine := (ds.filter (!ignAt o pat A E ·)).head?.map (· + 1)
        cases := ((ds.filter (!ignAt o pat A E ·)).map (tripleAt A E)).take o.maxPerm
        aIgn := (ds.filter (ignAt o pat A E)).map am
        eIgn := (ds.filter (ignAt o pat A E)).map em } := by
  show ds.foldl (wcStep o pat A E am em) _ = _
  have hn : ds.length - (ds.filter (ignAt o pat A E)).length = (ds.filter (!ignAt o pat A E ·)).length := by
    have := List.length_eq_countP_add_countP (ignAt o pat A E) (l := ds)
    simp only [List.countP_eq_length_filter, Bool.not_eq_true, Bool.decide_eq_false] at this
    omega
  rw [foldl_wcStep]
  simp [hn]

/-- `diffs` of check_strings (checkfiles.py:206-210) -/
def diffsOf (o : Opts) (A E : List Line) : List Nat :=
  (List.range A.length).filter (fun i => normalize o (A.getD i []) != normalize o (E.getD i []))

/-- `wc` (what `wrong_content` returns) and `ndiffs` are variables with an equation, not `let`s, so that no later `simp`
    expands them in every field: give `rfl`, or `(wrongContent_eq ..).symm` to read the fields in closed form. -/
theorem checkStrings_of_length_eq {o : Opts} {pat : PatFn} {a e : List Line}
    (h : (kept o a).length = (kept o e).length) {wc : WC}
    (hwc : wc = wrongContent o pat (kept o a) (kept o e) (idxMap o (dropTrailingEmpty a))
      (idxMap o (dropTrailingEmpty e)) (diffsOf o (kept o a) (kept o e)))
    {ndiffs : Nat} (hn : ndiffs = if wc.ndiffs > 0 && wc.ndiffs ≤ o.maxPerm then
      permutationFailures (wc.cases.map fun c => (c.1, normalize o c.2.1, normalize o c.2.2)) else wc.ndiffs) :
    checkStrings o pat a e =
      { failures := if ndiffs > 0 then 1 else 0, ndiffs := ndiffs,
        firstError := if ndiffs > 0 then wc.firstLine.map (FirstError.content wc.ndiffs) else none,
        reconstruction :=
          if o.preprocess || !wc.aIgn.isEmpty || !wc.eIgn.isEmpty || !(remIdx o (dropTrailingEmpty a)).isEmpty
              || !(remIdx o (dropTrailingEmpty e)).isEmpty || (!o.actualPath && wc.ndiffs > 0) then
            some (reconstruct ((dropTrailingEmpty a).map (normalize o)) ((dropTrailingEmpty e).map (normalize o))
              (remIdx o (dropTrailingEmpty a)) (remIdx o (dropTrailingEmpty e)) wc.aIgn wc.eIgn)
          else none,
        actualAfter := kept o a, expectedAfter := kept o e, aIgn := wc.aIgn, eIgn := wc.eIgn,
        aRem := remIdx o (dropTrailingEmpty a), eRem := remIdx o (dropTrailingEmpty e) } := by
  simp only [kept_eq] at h hwc ⊢
  subst hwc hn
  unfold checkStrings
  extract_lets oa oe doRemove aRem eRem aSurv eSurv actual expected aMap eMap diffs wc wn w
  -- the early exit for "no differing pair" returns what `wrong_content` returns for no pair
  have hd : diffs.isEmpty = true → (none, 0, [], [], [], true) =
      (wc.firstLine.map (FirstError.content wc.ndiffs), wc.ndiffs, wc.cases, wc.aIgn, wc.eIgn, true) := fun hd => by
    simp only [wc, List.isEmpty_iff.mp hd]; rfl
  have hb : (actual.length == expected.length) = true := beq_iff_eq.mpr h
  rw [if_pos hb, ite_eq_right_iff.mpr hd]
  rfl

theorem failures_zero_or_one (o : Opts) (pat : PatFn) (a e : List Line) :
    (checkStrings o pat a e).failures = 0 ∨ (checkStrings o pat a e).failures = 1 := by
  unfold checkStrings
  extract_lets
  split  -- the tuple match
  exact (Decidable.em _).symm.imp (if_neg ·) (if_pos ·)

end TddaVerif.CheckStrings

namespace TddaVerif.Props.C04.Lemmas
open TddaVerif.Py TddaVerif.CheckStrings TddaVerif.Props.C04

theorem checkPatterns_refl (npats : Nat) (pat : PatFn) (fuel : Nat) (a : Line) :
    checkPatterns npats pat fuel a a = true := by
  cases fuel <;> simp [checkPatterns]

theorem checkPatterns_zero (pat : PatFn) (fuel : Nat) (a e : Line) :
    checkPatterns 0 pat fuel a e = (a == e) := by
  cases fuel <;> simp [checkPatterns]

theorem checkPatterns_succ {npats : Nat} {pat : PatFn} {f : Nat} {a e : Line} :
    checkPatterns npats pat (f + 1) a e = true ↔
      a = e ∨ ∃ p < npats, ∃ me ma, pat p e = some me ∧ pat p a = some ma ∧
      (if me.groups == 1 then true
       else if me.groups == 2 then
         (if me.startParen then checkPatterns npats pat f ma.right me.right
          else checkPatterns npats pat f ma.left me.left)
       else checkPatterns npats pat f ma.left me.left && checkPatterns npats pat f ma.right me.right) = true := by
  simp only [checkPatterns, Bool.or_eq_true, beq_iff_eq, List.any_eq_true, List.mem_range]
  refine or_congr_right (exists_congr fun p => and_congr_right fun _ => ?_)
  cases pat p e with
  | none => simp
  | some me =>
    cases pat p a with
    | none => simp
    | some ma => simp only [Option.some.injEq, exists_and_left, exists_eq_left']

theorem checkPatterns_sound (npats : Nat) (pat : PatFn) (fuel : Nat) (a e : Line)
    (h : checkPatterns npats pat fuel a e = true) : PatEquiv npats pat a e := by
  induction fuel generalizing a e with
  | zero => exact (beq_iff_eq.mp h) ▸ .refl a
  | succ fuel ih =>
    obtain rfl | ⟨p, hp, me, ma, hme, hma, h⟩ := checkPatterns_succ.mp h
    · exact .refl a
    by_cases h1 : me.groups = 1
    · exact .full p a e ma me hp hme hma h1
    by_cases h2 : me.groups = 2
    · cases hsp : me.startParen <;> simp [h2, hsp] at h
      · exact .restLeft p a e ma me hp hme hma h2 hsp (ih _ _ h)
      · exact .restRight p a e ma me hp hme hma h2 hsp (ih _ _ h)
    · simp [h1, h2] at h
      exact .split p a e ma me hp hme hma h1 h2 (ih _ _ h.1) (ih _ _ h.2)

/-- the expected side shrinks at every recursive call, so `e.length + 1` fuel is enough -/
theorem checkPatterns_complete_gen (npats : Nat) (pat : PatFn) (hs : Shrinks npats pat) (a e : Line)
    (h : PatEquiv npats pat a e) (fuel : Nat) (hf : e.length < fuel) :
    checkPatterns npats pat fuel a e = true := by
  induction h generalizing fuel
  all_goals obtain ⟨f, rfl⟩ := Nat.exists_eq_add_one_of_ne_zero (Nat.ne_zero_of_lt hf)
  case refl a => exact checkPatterns_refl npats pat _ a
  case full p a e ma me hp hme hma h1 =>
    exact checkPatterns_succ.mpr (.inr ⟨p, hp, me, ma, hme, hma, by simp [h1]⟩)
  case restRight p a e ma me hp hme hma h2 hsp _ ih | restLeft p a e ma me hp hme hma h2 hsp _ ih =>
    have hsh := hs p e me hp hme (by omega)
    exact checkPatterns_succ.mpr (.inr ⟨p, hp, me, ma, hme, hma, by simp [h2, hsp, ih f (by omega)]⟩)
  case split p a e ma me hp hme hma h1 h2 _ _ ihl ihr =>
    have hsh := hs p e me hp hme h1
    exact checkPatterns_succ.mpr
      (.inr ⟨p, hp, me, ma, hme, hma, by simp [h1, h2, ihl f (by omega), ihr f (by omega)]⟩)

theorem checkPatterns_complete (npats : Nat) (pat : PatFn) (hs : Shrinks npats pat) (a e : Line)
    (h : PatEquiv npats pat a e) : checkPatterns npats pat (patFuel a e) a e = true :=
  checkPatterns_complete_gen npats pat hs a e h _ (Nat.lt_succ_of_le (Nat.le_add_left ..))

theorem lineOKb_iff (o : Opts) (pat : PatFn) (hs : Shrinks o.npats pat) (a e : Line) :
    lineOKb o pat a e = true ↔ LineOK o pat a e := by
  unfold lineOKb LineOK canIgnore
  simp only [Bool.or_eq_true, beq_iff_eq, List.any_eq_true]
  exact or_congr_right (or_congr_right ⟨checkPatterns_sound _ _ _ _ _, checkPatterns_complete _ _ hs _ _⟩)

theorem lineOKb_of_normalize_eq (o : Opts) (pat : PatFn) (x y : Line)
    (h : normalize o x = normalize o y) : lineOKb o pat x y = true := by
  simp [lineOKb, h]

theorem lineOKb_of_normalize_ne {o : Opts} {pat : PatFn} {a e : Line} (h : normalize o a ≠ normalize o e) :
    lineOKb o pat a e = canIgnore o pat a e := by
  simp [lineOKb, h]

theorem badPairs_eq (o : Opts) (pat : PatFn) (a e : List Line) (h : (kept o a).length = (kept o e).length) :
    badPairs o pat a e = ((diffsOf o (kept o a) (kept o e)).filter (!ignAt o pat (kept o a) (kept o e) ·)).map
      (fun i => ((kept o a).getD i [], (kept o e).getD i [])) := by
  rw [badPairs, ListAux.zip_eq_map_getD_range [] [] h, List.filter_map, diffsOf, List.filter_filter]
  congr 1
  apply List.filter_congr
  intro i _
  simp only [Function.comp, lineOKb, ignAt, Bool.not_or, bne, Bool.and_comm]

theorem different_length_fails (o : Opts) (pat : PatFn) (a e : List Line)
    (h : (kept o a).length ≠ (kept o e).length) : (checkStrings o pat a e).failures = 1 := by
  have ha := List.length_filter_le (survives o) (dropTrailingEmpty a)
  have he := List.length_filter_le (survives o) (dropTrailingEmpty e)
  have hpos : 0 < max (dropTrailingEmpty a).length (dropTrailingEmpty e).length := by
    rw [kept_def, kept_def] at h; omega
  simp only [kept_eq] at h
  unfold checkStrings
  extract_lets oa oe doRemove aRem eRem aSurv eSurv actual expected aMap eMap diffs wc wn w
  have hb : ¬(actual.length == expected.length) = true := fun hb => h (beq_iff_eq.mp hb)
  rw [if_neg hb]
  simp [oa, oe, hpos]

theorem check_pass_iff (o : Opts) (pat : PatFn) (a e : List Line) :
    (checkStrings o pat a e).failures = 0 ↔ Agree o pat a e := by
  by_cases hlen : (kept o a).length = (kept o e).length
  · rw [checkStrings_of_length_eq hlen (wrongContent_eq ..).symm rfl]
    simp only [Agree, hlen, true_and, badPairs_eq o pat a e hlen]
    generalize (diffsOf o (kept o a) (kept o e)).filter (!ignAt o pat (kept o a) (kept o e) ·) = B
    rw [← sorted_eq_iff_perm]
    by_cases h0 : B = []
    · simp [h0]
    · have hpos : 0 < B.length := List.length_pos_iff.mpr h0
      by_cases hm : B.length ≤ o.maxPerm
      · -- the permutation check sees all of `B`, each pair after the stripping requested
        rw [List.take_of_length_le (by simpa using hm)]
        simp [permutationFailures, hm, hpos, h0, tripleAt, Function.comp_def]
      · simp [hm, h0]
  · simp [different_length_fails o pat a e hlen, Agree, hlen]

theorem identical_passes (o : Opts) (pat : PatFn) (a : List Line) :
    (checkStrings o pat a a).failures = 0 := by
  refine (check_pass_iff o pat a a).mpr ⟨rfl, .inl (List.filter_eq_nil_iff.mpr fun p hp => ?_)⟩
  rw [List.zip, List.zipWith_self] at hp
  obtain ⟨x, _, rfl⟩ := List.mem_map.mp hp
  simp [lineOKb_of_normalize_eq o pat x x rfl]

theorem unexcused_difference_fails (o : Opts) (pat : PatFn) (a e : List Line)
    (hperm : o.maxPerm = 0) (h : badPairs o pat a e ≠ []) : (checkStrings o pat a e).failures = 1 :=
  (failures_zero_or_one o pat a e).resolve_left fun h0 => by
    obtain ⟨_, h1 | ⟨h1, _⟩⟩ := (check_pass_iff o pat a e).mp h0
    · exact h h1
    · exact h (List.length_eq_zero_iff.mp (Nat.le_zero.mp (hperm ▸ h1)))

end TddaVerif.Props.C04.Lemmas
