/-
Where failing assertions write (Model/TmpDir.lean). The directory: what is configured, else the variable, else the system's.
The files: the names written are a sublist of the four prefixed forms of one common name without separator
(`writtenNames_sublist`), so they are distinct, and `join` makes each a direct child of the directory.
-/
import TddaVerif.Model.TmpDir
import TddaVerif.Lemmas.ListAux

namespace TddaVerif.TmpDir.Lemmas
open TddaVerif.TmpDir

theorem comparisonTmpDir_some {d : Path} (h : d ≠ []) (sys : Path) : comparisonTmpDir (some d) sys = d := by
  cases d with
  | nil => exact absurd rfl h
  | cons c cs => rfl

theorem env_dir_when_unset (d sys : Path) (h : d ≠ []) : tmpDir none (some d) sys = d :=
  comparisonTmpDir_some h sys

theorem system_dir_otherwise (sys : Path) :
    tmpDir none none sys = sys ∧ tmpDir (some none) none sys = sys ∧ tmpDir (some (some [])) none sys = sys
    ∧ ∀ env, tmpDir (some none) env sys = sys := by
  refine ⟨?_, rfl, rfl, fun _ => rfl⟩
  cases sys <;> rfl

theorem basename_no_sep (p : Path) : '/' ∉ basename p := fun h => by
  simpa using ListAux.mem_takeWhile (List.mem_reverse.mp h)

theorem commonName_no_sep (c : Call) : '/' ∉ commonName c := by
  unfold commonName
  split
  · exact basename_no_sep _
  · split
    · exact basename_no_sep _
    · split
      · exact basename_no_sep _
      · decide

/-- the four name prefixes of add_failures, in the order in which the files are written -/
def prefixes : List Path :=
  ["expected-raw-".toList, "actual-raw-".toList, "actual-".toList, "expected-".toList]

/-- every `if` of `writtenNames` keeps or drops a piece of that list -/
theorem writtenNames_sublist (c : Call) : (writtenNames c).Sublist (prefixes.map (· ++ commonName c)) :=
  ListAux.ite_sublist (List.nil_sublist _)
    (List.Sublist.append (l₂ := [_, _]) (r₂ := [_, _])
      (ListAux.ite_sublist (List.nil_sublist _)
        (List.Sublist.append (l₂ := [_]) (r₂ := [_])
          (ListAux.ite_sublist (.refl _) (List.nil_sublist _)) (ListAux.ite_sublist (.refl _) (List.nil_sublist _))))
      (ListAux.ite_sublist (.refl _) (List.nil_sublist _)))

theorem writtenNames_nodup (c : Call) : (writtenNames c).Nodup :=
  have hp : prefixes.Nodup := by simp only [prefixes, String.reduceToList]; decide
  (writtenNames_sublist c).nodup (List.pairwise_map.mpr (hp.imp fun hne h => hne (List.append_cancel_right h)))

/-- what `ChildOf` asks of the last component -/
def PlainName (n : Path) : Prop := n ≠ [] ∧ '/' ∉ n

theorem writtenNames_plain (c : Call) {n : Path} (hn : n ∈ writtenNames c) : PlainName n := by
  obtain ⟨p, hp, rfl⟩ := List.mem_map.mp ((writtenNames_sublist c).subset hn)
  have : PlainName p :=
    (by simp only [prefixes, PlainName, String.reduceToList]; decide : ∀ p ∈ prefixes, PlainName p) p hp
  exact ⟨by simp [this.1], by simp [this.2, commonName_no_sep c]⟩

theorem head?_ne_sep {n : Path} (h : PlainName n) : n.head? ≠ some '/' := by
  cases n with
  | nil => exact absurd rfl h.1
  | cons c cs => intro hc; simp at hc; simp [hc, PlainName] at h

theorem join_child (d : Path) {n : Path} (h : PlainName n) : ChildOf d (join d n) := by
  refine ⟨n, h.1, h.2, ?_⟩
  unfold join
  rw [if_neg (head?_ne_sep h)]
  split
  · exact .inr ⟨rfl, by assumption⟩
  · exact .inl rfl

theorem join_injective (d : Path) {a b : Path} (ha : PlainName a) (hb : PlainName b) (h : join d a = join d b) :
    a = b := by
  unfold join at h
  rw [if_neg (head?_ne_sep ha), if_neg (head?_ne_sep hb)] at h
  split at h
  · exact List.append_cancel_left h
  · exact (List.cons.inj (List.append_cancel_left h)).2

theorem written_inside (d : Path) (c : Call) : ∀ p ∈ written d c, ChildOf d p := by
  intro p hp
  obtain ⟨n, hn, rfl⟩ := List.mem_map.mp hp
  exact join_child d (writtenNames_plain c hn)

theorem no_temporaries_writes_nothing (d : Path) (c : Call) (h : c.createTemporaries = false) : written d c = [] := by
  simp [written, writtenNames, h]

theorem written_nodup (d : Path) (c : Call) : (written d c).Nodup :=
  List.pairwise_map.mpr ((writtenNames_nodup c).imp_of_mem fun ha hb hne h =>
    hne (join_injective d (writtenNames_plain c ha) (writtenNames_plain c hb) h))

end TddaVerif.TmpDir.Lemmas
