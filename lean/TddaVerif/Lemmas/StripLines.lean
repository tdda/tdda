/-
`strip_lines`: `splitNl` is core's `List.splitOn '\n'` (`splitNl_eq`) and `joinNl` its `List.intercalate ['\n']`
(`Py.joinNl_eq`), which are inverse to each other on lines without a newline; so the lines of `stripLines s` are the lines
of `s`, each right-stripped, and the three `stripLines` facts of C09 are read off that.
-/
import TddaVerif.Model.TddaFile
import TddaVerif.Lemmas.PyText
namespace TddaVerif.Props.C09.Aux
open TddaVerif.Py TddaVerif.TddaFile

theorem splitNl_eq : ∀ s cur : Line, splitNl s cur = List.splitOnPPrepend (· == '\n') s cur
  | [], _ => rfl
  | c :: cs, cur => by rw [splitNl, List.splitOnPPrepend, splitNl_eq cs, splitNl_eq cs]

theorem splitNl_nil (s : Line) : splitNl s [] = s.splitOn '\n' := splitNl_eq s []

theorem joinNl_splitNl (s : Line) : joinNl (splitNl s []) = s := by
  rw [splitNl_nil, joinNl_eq, List.intercalate_splitOn]

theorem splitNl_noNl {s cur : Line} (hcur : '\n' ∉ cur) : ∀ l ∈ splitNl s cur, '\n' ∉ l := by
  induction s generalizing cur with
  | nil => exact fun l hl => List.mem_singleton.1 hl ▸ mt List.mem_reverse.1 hcur
  | cons c cs ih =>
    rw [splitNl]
    split
    · exact List.forall_mem_cons.2 ⟨by rwa [List.mem_reverse], ih List.not_mem_nil⟩
    · next h => exact ih fun hm => (List.mem_cons.1 hm).elim (fun e => h (beq_iff_eq.2 e.symm)) hcur

theorem splitNl_append_nl (a : Line) : splitNl (a ++ ['\n']) [] = splitNl a [] ++ [[]] := by
  rw [splitNl_nil, splitNl_nil, List.splitOn_append_cons_self]; rfl

theorem splitNl_joinNl_rstrip (s : Line) :
    splitNl (joinNl ((splitNl s []).map rstrip)) [] = (splitNl s []).map rstrip := by
  rw [splitNl_nil, joinNl_eq]
  refine List.splitOn_intercalate _ (fun x hx => ?_) (by simp [splitNl_nil])
  obtain ⟨l, hl, rfl⟩ := List.mem_map.1 hx
  exact fun hc => splitNl_noNl (by simp) l hl ((rstrip_sublist l).subset hc)

theorem splitNl_stripLines (s : Line) : splitNl (stripLines s) [] = (splitNl s []).map rstrip := by
  unfold stripLines
  split
  · next hnl =>
    obtain ⟨a, rfl⟩ := List.getLast?_eq_some_iff.1 (by simpa [endsWithNl] using hnl)
    rw [List.dropLast_concat, splitNl_append_nl, splitNl_append_nl, splitNl_joinNl_rstrip]
    simp [rstrip, lstrip]
  · exact splitNl_joinNl_rstrip s

theorem stripLines_eq (s : Line) : stripLines s = joinNl ((splitNl s []).map rstrip) := by
  rw [← splitNl_stripLines, joinNl_splitNl]

theorem stripLines_no_trailing_ws (s : Line) :
    ∀ l ∈ splitNl (stripLines s) [], rstrip l = l := by
  intro l hl
  rw [splitNl_stripLines] at hl
  obtain ⟨x, _, rfl⟩ := List.mem_map.1 hl
  exact rstrip_idem x

theorem stripLines_id (s : Line) (h : ∀ l ∈ splitNl s [], rstrip l = l) : stripLines s = s := by
  rw [stripLines_eq, List.map_congr_left h, List.map_id', joinNl_splitNl]

theorem stripLines_lines (s : Line) :
    (splitNl (stripLines s) []).length = (splitNl s []).length := by
  rw [splitNl_stripLines, List.length_map]

end TddaVerif.Props.C09.Aux
