/- Columns and their reference aggregates (the calc_* contract of Model/Constraints.lean), said about the cells.
   An aggregate that answers `some m` answers a least element, `m ∈ l ∧ ∀ x ∈ l, r m x`: verification reads a
   test of `m` as a test of every cell, discovery reports `m`. -/
import TddaVerif.Props.C02Spec
import TddaVerif.Lemmas.ValOrder

namespace TddaVerif.Constraints.Order
open TddaVerif.Constraints TddaVerif.Props.C02

theorem mem_nonNull {c : Column} {v : Val} : v ∈ c.nonNull ↔ some v ∈ c.cells := by
  simp [Column.nonNull, List.mem_filterMap]

theorem wf_iff {c : Column} : c.WF = true ↔ c.ftype ≠ .other ∧ ∀ v ∈ c.nonNull, v.ftype = c.ftype := by
  simp [Column.WF]

theorem wf_ftype {c : Column} (hwf : c.WF = true) : ∀ v ∈ c.nonNull, v.ftype = c.ftype := (wf_iff.mp hwf).2

theorem wf_ne_other (c : Column) (hwf : c.WF = true) : c.ftype ≠ .other := (wf_iff.mp hwf).1

theorem wf_sameCoarse {c : Column} (hwf : c.WF = true) : SameCoarse c.nonNull := fun x hx y hy =>
  coarse_of_ftype ((wf_ftype hwf x hx).trans (wf_ftype hwf y hy).symm)

theorem str_of_wf {c : Column} (hwf : c.WF = true) (hs : c.ftype = .string) {v : Val}
    (hv : v ∈ c.nonNull) : ∃ x, v = .s x := by
  have h := wf_ftype hwf v hv
  rw [hs] at h
  cases v <;> simp [Val.ftype] at h
  exact ⟨_, rfl⟩

theorem num_between {l : List Val} {m M : Val} {a : Rat} (hs : SameCoarse l) (hm : minOf l = some m)
    (hM : maxOf l = some M) (ha : m.num = some a) :
    ∃ b, M.num = some b ∧ a ≤ b ∧ ∀ v ∈ l, ∃ q, v.num = some q ∧ a ≤ q ∧ q ≤ b := by
  obtain ⟨hmm, hmin⟩ := minOf_least hs hm
  obtain ⟨hMm, hmax⟩ := maxOf_greatest hs hM
  obtain ⟨b, hb⟩ := num_of_coarse (hs m hmm M hMm) ha
  refine ⟨b, hb, (le_num ha hb).mp (hmin M hMm), fun v hv => ?_⟩
  obtain ⟨q, hq⟩ := num_of_coarse (hs m hmm v hv) ha
  exact ⟨q, hq, (le_num ha hq).mp (hmin v hv), (le_num hq hb).mp (hmax v hv)⟩

theorem signHolds_between {s : Sign} {a q b : Rat} (h1 : a ≤ q) (h2 : q ≤ b) (ha : SignHolds s a)
    (hb : SignHolds s b) : SignHolds s q :=
  match s, ha, hb with  -- `.null` holds of nothing
  | .positive, ha, _ => Std.lt_of_lt_of_le ha h1
  | .nonNegative, ha, _ => Rat.le_trans ha h1
  | .zero, ha, hb => Rat.le_antisymm (hb ▸ h2) (ha ▸ h1)
  | .nonPositive, _, hb => Rat.le_trans h2 hb
  | .negative, _, hb => Std.lt_of_le_of_lt h2 hb

theorem all_signHolds_iff {l : List Val} (hs : SameCoarse l) {m M : Val} {a b : Rat}
    (hm : minOf l = some m) (hM : maxOf l = some M) (ha : m.num = some a) (hb : M.num = some b) (s : Sign) :
    (∀ v ∈ l, ∃ q, v.num = some q ∧ SignHolds s q) ↔ SignHolds s a ∧ SignHolds s b := by
  constructor
  · intro h
    obtain ⟨q, hq, hsq⟩ := h m (minOf_mem hm)
    obtain ⟨q', hq', hsq'⟩ := h M (maxOf_mem hM)
    cases ha.symm.trans hq
    cases hb.symm.trans hq'
    exact ⟨hsq, hsq'⟩
  · rintro ⟨h1, h2⟩ v hv
    obtain ⟨b', hb', _, hall⟩ := num_between hs hm hM ha
    cases hb.symm.trans hb'
    obtain ⟨q, hq, haq, hqb⟩ := hall v hv
    exact ⟨q, hq, signHolds_between haq hqb h1 h2⟩

theorem listMin_eq_min? : ∀ l, listMin l = l.min?
  | [] => rfl
  | x :: xs => by rw [listMin, listMin_eq_min? xs, List.min?_cons]; cases xs.min? <;> rfl

theorem listMax_eq_max? : ∀ l, listMax l = l.max?
  | [] => rfl
  | x :: xs => by rw [listMax, listMax_eq_max? xs, List.max?_cons]; cases xs.max? <;> rfl

theorem listMin_eq_none {l : List Nat} : listMin l = none ↔ l = [] := by
  rw [listMin_eq_min?, List.min?_eq_none_iff]

theorem listMax_eq_none {l : List Nat} : listMax l = none ↔ l = [] := by
  rw [listMax_eq_max?, List.max?_eq_none_iff]

theorem listMin_least {l : List Nat} {m : Nat} (h : listMin l = some m) : m ∈ l ∧ ∀ x ∈ l, m ≤ x :=
  List.min?_eq_some_iff.mp (listMin_eq_min? l ▸ h)

theorem listMax_greatest {l : List Nat} {m : Nat} (h : listMax l = some m) : m ∈ l ∧ ∀ x ∈ l, x ≤ m :=
  List.max?_eq_some_iff.mp (listMax_eq_max? l ▸ h)

def lensOf (l : List Val) : List Nat :=
  l.filterMap (fun v => match v with | .s x => some x.length | _ => none)

theorem strLens_eq (c : Column) : strLens c = lensOf c.nonNull := rfl

theorem mem_lensOf {l : List Val} {n : Nat} : n ∈ lensOf l ↔ ∃ x, Val.s x ∈ l ∧ x.length = n := by
  simp only [lensOf, List.mem_filterMap]
  constructor
  · rintro ⟨v, hv, h⟩
    cases v <;> simp at h
    exact ⟨_, hv, h⟩
  · rintro ⟨x, hx, h⟩
    exact ⟨_, hx, by simp [h]⟩

theorem nullCells_eq (c : Column) : calcNullCount c = nullCells c := by
  -- every cell is counted on exactly one side
  rw [calcNullCount, nullCells, Column.nonNull, List.length_filterMap_eq_countP, ← List.countP_eq_length_filter,
    List.length_eq_countP_add_countP (·.isSome) (l := c.cells)]
  simp only [id, Nat.add_sub_cancel_left]
  exact List.countP_congr fun x _ => by cases x <;> simp

end TddaVerif.Constraints.Order
