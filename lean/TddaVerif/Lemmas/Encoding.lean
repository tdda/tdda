/- `get_encoding` (Model/Encoding.lean): the file name is looked at only when no encoding is given. -/
import TddaVerif.Model.Encoding

namespace TddaVerif.Encoding.Lemmas
open TddaVerif.Encoding TddaVerif.Applicable TddaVerif.Py

theorem default_encoding (k : Consts) (path : Line) (h : shortExt path ≠ k.specialExt) :
    getEncoding k path none = k.dflt := by
  simp [getEncoding, guessEncoding, h]

theorem explicit_encoding_wins (k : Consts) (p q : Line) (e : Enc) :
    getEncoding k p (some e) = getEncoding k q (some e) := rfl

end TddaVerif.Encoding.Lemmas
