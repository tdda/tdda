/-
pdextract = extract on the plain list of all the values: de-duplicating per column and dropping nulls first
changes nothing (default options: no stripping, no pruning), because the same strings are kept.
-/
import TddaVerif.Model.RexpySeries
import TddaVerif.Lemmas.RexpyPerm

namespace TddaVerif.Props.C03.Lemmas
open TddaVerif.Py TddaVerif.Rexpy TddaVerif.Props.C14.PermLemmas

theorem series_eq_list (T : CharTable) (cols : List (List (Option Line))) :
    extract T {} (pdextractItems cols) = extract T {} (cols.flatten.map (fun s => (s, 1))) := by
  apply extract_of_same_members T (o := {}) rfl (Nat.le_refl 1) (by decide)
  · intro t
    have key : ∀ xs : List (Option Line),
        (t ∈ (clean false false (xs.map (fun s => (s, 1)))).strings ↔ some t ∈ xs) := by
      intro xs
      rw [mem_clean_strings]
      constructor
      · rintro ⟨s, n, hit, -, ht, -⟩
        obtain ⟨x, hx, hxe⟩ := List.mem_map.1 hit
        cases hxe
        exact ht ▸ hx
      · exact fun h => ⟨t, 1, List.mem_map.2 ⟨_, h, rfl⟩, Nat.one_ne_zero, rfl, fun h => nomatch h.1⟩
    have hp : pdextractItems cols =
        ((cols.flatMap (fun c => (c.filterMap id).eraseDups)).map some).map (fun s => (s, 1)) := by
      rw [pdextractItems, List.map_map]; rfl
    show t ∈ (clean false false _).strings ↔ t ∈ (clean false false _).strings
    rw [hp, key, key]
    simp only [List.mem_map, List.mem_flatMap, List.mem_eraseDups, List.mem_filterMap, List.mem_flatten, id,
      Option.some.injEq, exists_eq_right]
  · show decide ((clean false false _).nStripped > 0) = decide ((clean false false _).nStripped > 0)
    rw [clean_nStripped_noStrip, clean_nStripped_noStrip]

end TddaVerif.Props.C03.Lemmas
