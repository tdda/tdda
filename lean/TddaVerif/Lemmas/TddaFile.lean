/- C09, the .tdda round trip at the level of the dictionary: `fieldToDict cs` is the entries of `canonField cs` (the
   constraints in the preferred key order), the constructor rebuilds each well-formed constraint from its entry and the
   date re-parse undoes the rendering, so loading a dump appends constraint after constraint and field after field;
   `canonField` keeps every lookup by kind and is idempotent. -/
import TddaVerif.Model.TddaFile
import TddaVerif.Lemmas.DateText
import TddaVerif.Lemmas.LoadField
import TddaVerif.Lemmas.StripLines
import TddaVerif.Lemmas.SortLines
import TddaVerif.Lemmas.ListAux

namespace TddaVerif.Props.C09.Lemmas
open TddaVerif.Py TddaVerif.TddaFile

def isDateField (cs : List Con) : Bool :=
  (cs.find? (fun c => c.kind == lit "type")).map (·.value) == some (JVal.atom (.str (lit "date")))

def isBound (k : Line) : Bool := k == lit "min" || k == lit "max"

def WFCon (isDate : Bool) (c : Con) : Bool :=
  standardKinds.contains c.kind &&
  (match c.value with
   | .atom (.datetime t) => isDate && isBound c.kind && t.valid
   -- loading re-parses the bounds of a date field: a string there that reads as a date would come back as a datetime
   | .atom (.str s) => !(isDate && isBound c.kind) || (match getDate s with | .ok _ => false | _ => true)
   | .atom _ => true
   | .list xs => xs.all (fun a => match a with | .datetime _ => false | _ => true)
   | .dict _ => false) &&
  (match c.precision with
   | none => true
   | some p => isBound c.kind && precisions.contains p &&
               (match c.value with | .atom _ => true | _ => false)) &&
  (if c.kind == lit "sign" then (match c.value with | .atom a => validEnum signs a | _ => false)
   else if c.kind == lit "type" then
     (match c.value with
      | .atom a => validEnum types a
      | .list xs => xs.all (fun a => match a with | .str s => types.contains s | _ => false)
      | _ => false)
   -- the documented values; `construct` also takes the ints 0 and 1 (Python's `0 == False`), which round-trip as well
   else if c.kind == lit "no_duplicates" then
     (match c.value with | .atom .null | .atom (.bool _) => true | _ => false)
   else if c.kind == lit "rex" then
     (match c.value with | .atom .null | .list _ => true | _ => false)
   else true)

/-- the middle clause is `Nodup` of the kinds in Boolean spelling; no proof of C09 uses it -/
def WFField (cs : List Con) : Bool :=
  !cs.isEmpty && (cs.map (·.kind)).eraseDups.length == cs.length && cs.all (WFCon (isDateField cs))

def WFSet (fields : List (Line × List Con)) : Prop :=
  (fields.map (·.1)).Nodup ∧ ∀ f ∈ fields, WFField f.2 = true

def canonField (cs : List Con) : List Con :=
  (toPreferredOrder (cs.map (·.kind)) standardKinds).filterMap (fun k => cs.find? (fun c => c.kind == k))

def canonSet (fields : List (Line × List Con)) : List (Line × List Con) :=
  fields.map (fun f => (f.1, canonField f.2))

theorem getDate_strDatetime (t : Civil) (h : t.valid = true) : getDate (strDatetime t) = .ok t :=
  Aux.getDate_strDatetime t h

def valOK (isDate : Bool) (kind : Line) (value : JVal) : Bool :=
  (match value with
   | .atom (.datetime t) => isDate && isBound kind && t.valid
   | .atom (.str s) => !(isDate && isBound kind) || (match getDate s with | .ok _ => false | _ => true)
   | .atom _ => true
   | .list xs => xs.all (fun a => match a with | .datetime _ => false | _ => true)
   | .dict _ => false)

def precOK (kind : Line) (value : JVal) (prec : Option Line) : Bool :=
  (match prec with
   | none => true
   | some p => isBound kind && precisions.contains p &&
               (match value with | .atom _ => true | _ => false))

def enumOK (kind : Line) (value : JVal) : Bool :=
  (if kind == lit "sign" then (match value with | .atom a => validEnum signs a | _ => false)
   else if kind == lit "type" then
     (match value with
      | .atom a => validEnum types a
      | .list xs => xs.all (fun a => match a with | .str s => types.contains s | _ => false)
      | _ => false)
   else if kind == lit "no_duplicates" then
     (match value with | .atom .null | .atom (.bool _) => true | _ => false)
   else if kind == lit "rex" then
     (match value with | .atom .null | .list _ => true | _ => false)
   else true)

theorem WFCon_iff {isDate : Bool} {c : Con} :
    WFCon isDate c = true ↔
      (standardKinds.contains c.kind = true ∧ valOK isDate c.kind c.value = true ∧
        precOK c.kind c.value c.precision = true ∧ enumOK c.kind c.value = true) := by
  unfold WFCon
  simp only [Bool.and_eq_true, and_assoc]
  rfl

theorem beq_min_or_max_eq_isBound (k : Line) : (k == lit "min" || k == lit "max") = isBound k := rfl

theorem acceptsPrecision_eq (k : Line) : acceptsPrecision k = isBound k := rfl

theorem construct_dict {kind : Line} {p : Line} (a : Atom) (hb : isBound kind = true)
    (hp : precisions.contains p = true) :
    construct kind (.dict [(lit "value", a), (lit "precision", .str p)])
      = .ok ⟨kind, .atom a, some p⟩ := by
  -- a literal is `String.ofList` of its characters: read so, it is not decoded
  have e : (lit "precision" == lit "value") = false ∧ (lit "value" == lit "precision") = false ∧
      (lit "precision" == lit "comment") = false := by
    simp only [lit]
    rw [String.toList_ofList, String.toList_ofList, String.toList_ofList]
    decide
  unfold construct
  simp only [List.any, lookupKw, List.find?, beq_self_eq_true, acceptsPrecision_eq, beq_min_or_max_eq_isBound, hb, e,
    Bool.true_or, Bool.not_true, Bool.and_true, Bool.or_true, Bool.or_false, Bool.false_and, if_true, Option.map]
  simpa using hp

theorem ite_eq_of_ite_eq_true {α : Type} {c : Prop} [Decidable c] {b b' : Bool} {a a' x : α}
    (hb : (if c then b else b') = true) (h : b = true → a = x) (h' : b' = true → a' = x) :
    (if c then a else a') = x := by
  by_cases p : c
  · rw [if_pos p] at hb ⊢; exact h hb
  · rw [if_neg p] at hb ⊢; exact h' hb

theorem construct_plain {kind : Line} {v : JVal} (hv : ∀ kvs, v ≠ .dict kvs)
    (h : isBound kind = true ∨ enumOK kind v = true) :
    construct kind v = .ok ⟨kind, v, none⟩ := by
  unfold construct
  by_cases hb : isBound kind = true
  · cases v with
    | dict kvs => exact absurd rfl (hv kvs)
    | _ => exact if_pos hb
  have he := h.resolve_left hb
  unfold enumOK at he
  -- `construct` and `enumOK` ask for the kind in the same order, so `he` goes down the chain of `construct`, one
  -- `ite_eq_of_ite_eq_true` for each question
  cases v with
  | dict kvs => exact absurd rfl (hv kvs)
  | atom a =>
    simp only [beq_min_or_max_eq_isBound, hb, Bool.false_eq_true, if_false]
    refine ite_eq_of_ite_eq_true he (fun h => if_pos h) fun he =>
      ite_eq_of_ite_eq_true he (fun h => if_pos h) fun he =>
      ite_eq_of_ite_eq_true he ?_ fun he => ite_eq_of_ite_eq_true he ?_ fun _ => rfl
    · cases a with
      | null | bool => exact fun _ => rfl
      | _ => exact nofun
    · cases a with
      | null => exact fun _ => rfl
      | _ => exact nofun
  | list xs =>
    simp only [beq_min_or_max_eq_isBound, hb, Bool.false_eq_true, if_false]
    exact ite_eq_of_ite_eq_true he nofun fun he => ite_eq_of_ite_eq_true he (fun h => if_pos h) fun he =>
      ite_eq_of_ite_eq_true he nofun fun he => ite_eq_of_ite_eq_true he (fun _ => rfl) fun _ => rfl

theorem reparse_render {isDate : Bool} {kind : Line} {value : JVal} (prec : Option Line)
    (h : valOK isDate kind value = true) :
    (if (isDate && isBound kind) = true
      then reparseDate ⟨kind, renderVal value, prec⟩ else ⟨kind, renderVal value, prec⟩)
      = (⟨kind, value, prec⟩ : Con) := by
  cases value with
  | atom a =>
    cases a with
    | datetime t =>
      -- written as a string, and only into a date-valued bound, where it is read back
      simp only [valOK, Bool.and_eq_true] at h
      rw [if_pos (Bool.and_eq_true _ _ ▸ h.1)]
      simp only [renderVal, renderAtom, reparseDate, getDate_strDatetime t h.2]
    | str s =>
      -- `valOK` excludes a string that reads as a date in a date-valued bound
      split
      · next hc =>
        simp only [valOK, hc, Bool.not_true, Bool.false_or] at h
        simp only [renderVal, renderAtom, reparseDate]
        cases hg : getDate s with
        | ok t => rw [hg] at h; cases h
        | _ => rfl
      · rfl
    | _ => exact ite_self _
  | _ => exact ite_self _

theorem construct_conToDict {isDate : Bool} {c : Con} (hwf : WFCon isDate c = true) :
    construct c.kind (conToDict c) = .ok { c with value := renderVal c.value } := by
  obtain ⟨_, h2, h3, h4⟩ := WFCon_iff.mp hwf
  obtain ⟨kind, value, prec⟩ := c
  cases prec with
  | some p =>
    simp only [precOK, Bool.and_eq_true] at h3
    cases value with
    | atom a => exact construct_dict _ h3.1.1 h3.1.2
    | _ => cases h3.2
  | none =>
    cases value with
    | dict kvs => cases h2
    | list xs => exact construct_plain nofun (Or.inr h4)
    | atom a =>
      refine construct_plain nofun ?_
      cases a with
      | datetime t =>
        -- a date is written as a string, which only `min` / `max` take unchecked
        simp only [valOK, Bool.and_eq_true] at h2
        exact Or.inl h2.1.2
      | _ => exact Or.inr h4

theorem loadCon_conToDict {isDate : Bool} {c : Con} (hwf : WFCon isDate c = true) :
    Aux.loadCon isDate c.kind (conToDict c) = .ok c := by
  rw [Aux.loadCon, construct_conToDict hwf, beq_min_or_max_eq_isBound]
  exact congrArg Except.ok (reparse_render c.precision (WFCon_iff.mp hwf).2.1)

theorem step_conToDict {name : Line} {isDate : Bool} {acc : List Con × List (Line × Line)} {c : Con}
    (hwf : WFCon isDate c = true) :
    Aux.step name isDate acc (c.kind, conToDict c) = .ok (putCon acc.1 c, acc.2) := by
  rw [Aux.step_of_std (WFCon_iff.mp hwf).1, loadCon_conToDict hwf]
  rfl

theorem putCon_new {cs : List Con} {c : Con} (h : c.kind ∉ cs.map (·.kind)) : putCon cs c = cs ++ [c] :=
  if_neg (ListAux.not_any_key h)

def entry (c : Con) : Line × JVal := (c.kind, conToDict c)

theorem foldlM_step_entry {name : Line} {isDate : Bool} {l : List Con} {acc : List Con × List (Line × Line)}
    (hwf : ∀ c ∈ l, WFCon isDate c = true) (hnd : ((acc.1 ++ l).map (·.kind)).Nodup) :
    (l.map entry).foldlM (Aux.step name isDate) acc = .ok (acc.1 ++ l, acc.2) := by
  induction l generalizing acc with
  | nil => simp [pure, Except.pure]
  | cons c rest ih =>
    rw [List.forall_mem_cons] at hwf
    rw [List.map_cons, List.foldlM_cons, entry, step_conToDict hwf.1, putCon_new (ListAux.key_not_mem_of_nodup hnd)]
    exact (ih hwf.2 (by simpa using hnd)).trans (by simp)

theorem standardKinds_nodup : standardKinds.Nodup := by decide +kernel

theorem mem_toPreferredOrder {keys : List Line} (preferred : List Line) {k : Line} (h : k ∈ keys) :
    k ∈ toPreferredOrder keys preferred := by
  unfold toPreferredOrder
  by_cases hp : k ∈ preferred
  · exact List.mem_append_left _ (List.mem_filter.mpr ⟨hp, by simpa using h⟩)
  · exact List.mem_append_right _ ((C04.Lemmas.sortLines_perm _).mem_iff.mpr
      (List.mem_eraseDups.mpr (List.mem_filter.mpr ⟨h, by simpa using hp⟩)))

theorem canonField_find (cs : List Con) (k : Line) :
    (canonField cs).find? (fun c => c.kind == k) = cs.find? (fun c => c.kind == k) := by
  unfold canonField
  rw [ListAux.find?_filterMap_find? Con.kind]
  split
  · rfl
  · next hk =>
    cases hf : cs.find? (fun c => c.kind == k) with
    | none => rfl
    | some c =>
      exact absurd (mem_toPreferredOrder _
        (ListAux.key_of_find? hf ▸ List.mem_map_of_mem (List.mem_of_find?_eq_some hf))) hk

theorem mem_of_mem_canonField {cs : List Con} {c : Con} (hc : c ∈ canonField cs) : c ∈ cs := by
  obtain ⟨k, _, hf⟩ := List.mem_filterMap.mp hc
  exact List.mem_of_find?_eq_some hf

theorem canonField_ne_nil {cs : List Con} (hne : cs ≠ []) : canonField cs ≠ [] := by
  cases cs with
  | nil => exact absurd rfl hne
  | cons c rest =>
    intro hnil
    have hfind := canonField_find (c :: rest) c.kind
    rw [hnil] at hfind
    simp at hfind

theorem isDateField_canon (cs : List Con) : isDateField (canonField cs) = isDateField cs := by
  unfold isDateField
  rw [canonField_find cs]

theorem fieldToDict_eq (cs : List Con) : fieldToDict cs = (canonField cs).map entry := by
  unfold fieldToDict canonField
  rw [List.map_filterMap]
  congr 1
  funext k
  cases hf : cs.find? (fun c => c.kind == k) with
  | none => rfl
  | some c => simp [entry, ListAux.key_of_find? hf]

def AllStd (cs : List Con) : Prop := ∀ c ∈ cs, standardKinds.contains c.kind = true

theorem toPreferredOrder_std {keys : List Line} (h : ∀ k ∈ keys, standardKinds.contains k = true) :
    toPreferredOrder keys standardKinds = standardKinds.filter (fun k => keys.contains k) := by
  unfold toPreferredOrder
  have : keys.filter (fun k => !standardKinds.contains k) = [] := by
    rw [List.filter_eq_nil_iff]
    intro k hk
    simpa using h k hk
  rw [this]
  simp [sortLines]

theorem canonField_std {cs : List Con} (h : AllStd cs) :
    canonField cs = standardKinds.filterMap (fun k => cs.find? (fun c => c.kind == k)) := by
  unfold canonField
  rw [toPreferredOrder_std (by simpa [AllStd] using h), List.filterMap_filter]
  congr 1
  funext k
  split
  · rfl
  · next hk =>
    cases hf : cs.find? (fun c => c.kind == k) with
    | none => rfl
    | some c =>
      exact absurd (by simpa using ⟨c, List.mem_of_find?_eq_some hf, ListAux.key_of_find? hf⟩) hk

theorem canonField_nodup {cs : List Con} (h : AllStd cs) : ((canonField cs).map (·.kind)).Nodup := by
  rw [canonField_std h]
  exact (ListAux.map_filterMap_find?_sublist Con.kind cs _).nodup standardKinds_nodup

theorem canonField_idem {cs : List Con} (h : AllStd cs) : canonField (canonField cs) = canonField cs := by
  rw [canonField_std (fun c hc => h c (mem_of_mem_canonField hc))]
  simp only [canonField_find]
  exact (canonField_std h).symm

theorem WFField_iff {cs : List Con} :
    WFField cs = true ↔ cs ≠ [] ∧ (cs.map (·.kind)).eraseDups.length = cs.length ∧
      ∀ c ∈ cs, WFCon (isDateField cs) c = true := by
  unfold WFField
  rw [Bool.and_eq_true, Bool.and_eq_true, List.all_eq_true]
  simp [and_assoc]

theorem WFField_allStd {cs : List Con} (h : WFField cs = true) : AllStd cs := fun c hc =>
  (WFCon_iff.mp ((WFField_iff.mp h).2.2 c hc)).1

theorem conToDict_of_not_bound {isDate : Bool} {c : Con} (hwf : WFCon isDate c = true) (hb : isBound c.kind = false) :
    conToDict c = c.value := by
  obtain ⟨_, h2, h3, _⟩ := WFCon_iff.mp hwf
  obtain ⟨kind, value, prec⟩ := c
  cases prec with
  | some p => simp [precOK, show isBound kind = false from hb] at h3
  | none =>
    cases value with
    | atom a =>
      cases a with
      | datetime t => simp [valOK, show isBound kind = false from hb] at h2
      | _ => rfl
    | _ => rfl

theorem dictIsDate_fieldToDict {cs : List Con} (h : WFField cs = true) :
    Aux.dictIsDate (fieldToDict cs) = isDateField cs := by
  rw [Aux.dictIsDate_eq, isDateField, fieldToDict_eq, List.find?_map]
  have : ((fun kv : Line × JVal => kv.1 == lit "type") ∘ entry) = (fun c : Con => c.kind == lit "type") := rfl
  rw [this, canonField_find cs]
  cases hf : cs.find? (fun c => c.kind == lit "type") with
  | none => rfl
  | some c =>
    have hval := conToDict_of_not_bound ((WFField_iff.mp h).2.2 c (List.mem_of_find?_eq_some hf))
      (ListAux.key_of_find? hf ▸ by decide)
    simp only [Option.map_some, entry, hval]

theorem loadField_fieldToDict (name : Line) {cs : List Con} (h : WFField cs = true) :
    loadField name (fieldToDict cs) = .ok (canonField cs, []) := by
  rw [Aux.loadField_eq, dictIsDate_fieldToDict h, fieldToDict_eq]
  exact foldlM_step_entry (fun c hc => (WFField_iff.mp h).2.2 c (mem_of_mem_canonField hc))
    (by simpa using canonField_nodup (WFField_allStd h))

def stepF (acc : Loaded) (f : Line × List (Line × JVal)) : Except LoadErr Loaded :=
  match loadField f.1 f.2 with
  | .error e => .error e
  | .ok (cs, ws) =>
    .ok { fields := if cs.isEmpty then acc.fields else putField acc.fields f.1 cs,
          warnings := acc.warnings ++ ws }

theorem fromDict_eq (d : List (Line × List (Line × JVal))) :
    fromDict d = d.foldlM stepF { fields := [], warnings := [] } := rfl

theorem putField_new {fs : List (Line × List Con)} {name : Line} (cs : List Con)
    (h : name ∉ fs.map (·.1)) : putField fs name cs = fs ++ [(name, cs)] :=
  if_neg (ListAux.not_any_key h)

theorem stepF_toDict {acc : Loaded} {f : Line × List Con} (hf : WFField f.2 = true)
    (hnew : f.1 ∉ acc.fields.map (·.1)) :
    stepF acc (f.1, fieldToDict f.2) =
      .ok { fields := acc.fields ++ [(f.1, canonField f.2)], warnings := acc.warnings } := by
  have hne : (canonField f.2).isEmpty = false := by
    simpa using canonField_ne_nil (WFField_iff.mp hf).1
  simp only [stepF, loadField_fieldToDict f.1 hf, hne, putField_new _ hnew, List.append_nil]
  rfl

theorem foldlM_stepF_toDict {fs : List (Line × List Con)} {acc : Loaded}
    (hwf : ∀ f ∈ fs, WFField f.2 = true) (hnd : ((acc.fields ++ fs).map (·.1)).Nodup) :
    (toDict fs).foldlM stepF acc = .ok { fields := acc.fields ++ canonSet fs, warnings := acc.warnings } := by
  induction fs generalizing acc with
  | nil => simp [toDict, canonSet, pure, Except.pure]
  | cons f rest ih =>
    rw [List.forall_mem_cons] at hwf
    rw [toDict, List.map_cons, List.foldlM_cons, stepF_toDict hwf.1 (ListAux.key_not_mem_of_nodup hnd)]
    exact (ih hwf.2 (by simpa using hnd)).trans (by simp [canonSet])

theorem load_dump (fields : List (Line × List Con)) (hwf : WFSet fields) :
    fromDict (toDict fields) = .ok { fields := canonSet fields, warnings := [] } := by
  rw [fromDict_eq]
  exact foldlM_stepF_toDict hwf.2 (by simpa using hwf.1)

theorem WFField_canon {cs : List Con} (h : WFField cs = true) : WFField (canonField cs) = true := by
  have hstd := WFField_allStd h
  obtain ⟨hne, _, hall⟩ := WFField_iff.mp h
  rw [WFField_iff]
  refine ⟨canonField_ne_nil hne, ?_, ?_⟩
  · rw [ListAux.eraseDups_of_nodup (canonField_nodup hstd), List.length_map]
  · intro c hc
    rw [isDateField_canon cs]
    exact hall c (mem_of_mem_canonField hc)

theorem dump_load_dump (fields : List (Line × List Con)) (hwf : WFSet fields) :
    toDict (canonSet fields) = toDict fields ∧ WFSet (canonSet fields) := by
  refine ⟨?_, ?_, ?_⟩
  · unfold toDict canonSet
    rw [List.map_map]
    apply List.map_congr_left
    intro f hf
    simp only [Function.comp]
    rw [fieldToDict_eq, fieldToDict_eq, canonField_idem (WFField_allStd (hwf.2 f hf))]
  · have : (canonSet fields).map (·.1) = fields.map (·.1) := by
      unfold canonSet; rw [List.map_map]; rfl
    rw [this]; exact hwf.1
  · intro f hf
    obtain ⟨g, hg, rfl⟩ := List.mem_map.mp hf
    exact WFField_canon (hwf.2 g hg)

theorem canonSet_find (fields : List (Line × List Con)) (name kind : Line) :
    (((canonSet fields).find? (fun f => f.1 == name)).bind (fun f => f.2.find? (fun c => c.kind == kind)))
      = ((fields.find? (fun f => f.1 == name)).bind (fun f => f.2.find? (fun c => c.kind == kind))) := by
  unfold canonSet
  rw [List.find?_map]
  show ((fields.find? (fun f => f.1 == name)).map _).bind _ = _
  cases fields.find? (fun f => f.1 == name) with
  | none => rfl
  | some f => exact canonField_find f.2 kind

theorem same_constraints (fields : List (Line × List Con)) (hwf : WFSet fields) (name kind : Line) :
    (((canonSet fields).find? (fun f => f.1 == name)).bind (fun f => f.2.find? (fun c => c.kind == kind)))
      = ((fields.find? (fun f => f.1 == name)).bind (fun f => f.2.find? (fun c => c.kind == kind))) := by
  have _ := hwf  -- not needed
  exact canonSet_find fields name kind

theorem unknown_ignored (name : Line) (c : List (Line × JVal)) :
    (loadField name c).map (·.1) =
      (loadField name (c.filter (fun kv => standardKinds.contains kv.1))).map (·.1) :=
  Aux.unknown_ignored name c

theorem hash_key_silent (name : Line) (pre post : List (Line × JVal)) (k : Line) (v : JVal)
    (hk : k.head? = some '#') (hs : standardKinds.contains k = false) :
    loadField name (pre ++ (k, v) :: post) = loadField name (pre ++ post) :=
  Aux.hash_key_silent name pre post k v hk hs

theorem stripLines_no_trailing_ws (s : Line) :
    ∀ l ∈ splitNl (stripLines s) [], rstrip l = l :=
  Aux.stripLines_no_trailing_ws s

theorem stripLines_id (s : Line) (h : ∀ l ∈ splitNl s [], rstrip l = l) : stripLines s = s :=
  Aux.stripLines_id s h

theorem stripLines_lines (s : Line) :
    (splitNl (stripLines s) []).length = (splitNl s []).length :=
  Aux.stripLines_lines s

end TddaVerif.Props.C09.Lemmas
