/-
C05, DataFrame comparison: `typesMatch` is the documented relation of the three levels (`typesMatch_iff`); the structure
test of check_dataframe is the three structural clauses of `Agree` (`same_iff`), so its verdict is the stated rule
(`check_iff_agree`); each way of failing is a clause of the rule that does not hold (`fails_of_not_agree`).
-/
import TddaVerif.Model.CheckPandas
import TddaVerif.Props.C05Spec
import TddaVerif.Lemmas.ListAux
namespace TddaVerif.Props.C05.Lemmas
open TddaVerif.Py TddaVerif.CheckPandas TddaVerif.Props.C05

theorem typesMatch_iff (a b : Line) (level : Level) : typesMatch a b level = true ↔ TypesAgree a b level := by
  unfold typesMatch TypesAgree
  by_cases hab : a = b
  · subst hab; simp
  · cases level <;> simp [hab, or_assoc]

theorem map_name_cat (l : List Col) : (l.map catAsString).map (·.name) = l.map (·.name) := by
  rw [List.map_map]
  apply List.map_congr_left
  intro c _
  simp only [Function.comp, catAsString]
  split <;> rfl

/-- The test is four lists of offending columns being empty, and the clauses do not follow the lists: `types` reads three of
    them (no selected column is missing, none is only in the actual frame, none has a wrong type), `extra` the rest of the
    second, and `order` is what the fourth says once nothing is missing -/
theorem same_iff (act ref : List Col) (ct ce : Flag) (co : Option Flag) (level : Level) :
    (structureOf act ref ct ce co level).same = true ↔
      (∀ c ∈ resolve ct (ref.map (·.name)), c ∈ act.map (·.name) ∧ c ∈ ref.map (·.name) ∧
            ∀ ta tr, dtypeC act c = some ta → dtypeC ref c = some tr → TypesAgree ta tr level) ∧
      (∀ c ∈ resolve ce (act.map (·.name)), c ∈ ref.map (·.name)) ∧
      (∀ f, co = some f →
        (act.map (·.name)).filter (fun c => (resolve f (ref.map (·.name))).contains c && (ref.map (·.name)).contains c)
        = (ref.map (·.name)).filter (fun c => (resolve f (ref.map (·.name))).contains c && (act.map (·.name)).contains c)) := by
  unfold Structure.same structureOf
  simp only [map_name_cat, Bool.and_eq_true, List.isEmpty_iff, List.filter_eq_nil_iff, ListAux.eraseDups_eq_nil_iff,
    List.append_eq_nil_iff, ← typesMatch_iff, dtypeC]
  -- from here on only logic: the column names, the selections and the two dtype lookups are variables
  generalize List.map (fun x => x.name) act = an
  generalize List.map (fun x => x.name) ref = rn
  generalize resolve ct rn = CT
  generalize resolve ce an = CE
  generalize dtypeOf (List.map catAsString act) = A
  generalize dtypeOf (List.map catAsString ref) = R
  have hnil : (∀ a ∈ CT, ¬(!an.contains a) = true) → List.filter (fun c => !an.contains c) CT = [] :=
    List.filter_eq_nil_iff.2
  constructor
  · -- the tests for "only in the actual frame" and "wrong type" begin with `an.contains a`, which `hmiss` settles
    rintro ⟨⟨⟨hmiss, hextra, hunexp⟩, hwrong⟩, hord⟩
    have hM : ∀ a ∈ CT, a ∈ an := fun a ha => by simpa using hmiss a ha
    refine ⟨fun c hc => ⟨hM c hc, by simpa [hM c hc] using hunexp c hc, fun ta tr hta htr => ?_⟩,
      fun c hc => by simpa using hextra c hc, ?_⟩
    · simpa [hM c hc, hta, htr] using hwrong c hc
    · rintro f rfl
      rw [hnil hmiss] at hord
      simpa using hord
  · rintro ⟨htypes, hextra, hord⟩
    have hmiss : ∀ a ∈ CT, ¬(!an.contains a) = true := fun a ha => by simp [(htypes a ha).1]
    refine ⟨⟨⟨hmiss, fun a ha => by simp [hextra a ha], fun a ha => by simp [(htypes a ha).2.1]⟩, fun a ha => ?_⟩, ?_⟩
    · -- the type test only speaks where both frames give a dtype
      have h3 := (htypes a ha).2.2
      cases hA : A a <;> cases hR : R a <;> simp
      exact fun _ => h3 _ _ hA hR
    · cases co with
      | none => rfl
      | some f => rw [hnil hmiss]; simpa using hord f rfl

theorem missing_nil_of_same {s : Structure} (h : s.same = true) : s.missing = [] := by
  simp only [Structure.same, Bool.and_eq_true, List.isEmpty_iff] at h
  exact h.1.1.1

theorem check_iff_agree (act ref : List Col) (nact nref : Nat) (cd ct ce : Flag) (co : Option Flag)
    (level : Level) (ve : List Line → Bool) :
    checkDataframe act ref nact nref cd ct ce co level ve = true ↔ Agree act ref nact nref cd ct ce co level ve := by
  have hA : Agree act ref nact nref cd ct ce co level ve ↔
      (structureOf act ref ct ce co level).same = true ∧ nact = nref ∧
      (∀ c ∈ resolve cd (ref.map (·.name)), c ∈ act.map (·.name) ∧ c ∈ ref.map (·.name)) ∧
      (resolve cd (ref.map (·.name)) ≠ [] → ve (resolve cd (ref.map (·.name))) = true) := by
    rw [same_iff]
    exact ⟨fun h => ⟨⟨h.types, h.extra, h.order⟩, h.rows, h.dataCols, h.values⟩,
      fun ⟨⟨a, b, c⟩, d, e, f⟩ => ⟨a, b, c, d, e, f⟩⟩
  rw [hA]
  unfold checkDataframe
  by_cases hs : (structureOf act ref ct ce co level).same = true
  · -- nothing is missing, so the filters on `missing` keep everything. What is left of the verdict after the row count:
    -- `absent`, the selected columns that one frame lacks, is empty exactly when `dataCols` holds; then an empty
    -- selection passes and any other is handed to `ve`, and "`cd = []` or `ve cd`" is `values`
    simp only [hs, missing_nil_of_same hs, List.contains_nil, Bool.not_false, Bool.true_and, Bool.not_true,
      List.filter_eq_self.mpr fun _ _ => rfl]
    simp [List.filter_eq_nil_iff, -List.mem_map, Classical.or_iff_not_imp_left]
  · simp [hs]

theorem typesMatch_refl (a : Line) (level : Level) : typesMatch a a level = true :=
  (typesMatch_iff a a level).2 (Or.inl rfl)

theorem typesAgree_symm {a b : Line} {level : Level} (h : TypesAgree a b level) : TypesAgree b a level := by
  rcases h with h | ⟨hl, h | h | h | ⟨hp, ha, hb⟩⟩
  · exact Or.inl h.symm
  · exact Or.inr ⟨hl, Or.inl h.symm⟩
  · exact Or.inr ⟨hl, Or.inr (Or.inr (Or.inl h))⟩
  · exact Or.inr ⟨hl, Or.inr (Or.inl h)⟩
  · exact Or.inr ⟨hl, Or.inr (Or.inr (Or.inr ⟨hp, hb, ha⟩))⟩

theorem typesMatch_symm (a b : Line) (level : Level) : typesMatch a b level = typesMatch b a level := by
  rw [Bool.eq_iff_iff, typesMatch_iff, typesMatch_iff]
  exact ⟨typesAgree_symm, typesAgree_symm⟩

theorem typesMatch_strict_to_medium (a b : Line) (h : typesMatch a b .strict = true) : typesMatch a b .medium = true := by
  rw [typesMatch_iff] at *
  rcases h with h | ⟨hl, _⟩
  · exact Or.inl h
  · exact absurd rfl hl

theorem typesMatch_medium_to_permissive (a b : Line) (h : typesMatch a b .medium = true) :
    typesMatch a b .permissive = true := by
  rw [typesMatch_iff] at *
  rcases h with h | ⟨_, h | h | h | ⟨hp, _, _⟩⟩
  · exact Or.inl h
  · exact Or.inr ⟨by decide, Or.inl h⟩
  · exact Or.inr ⟨by decide, Or.inr (Or.inl h)⟩
  · exact Or.inr ⟨by decide, Or.inr (Or.inr (Or.inl h))⟩
  · exact absurd hp (by decide)

theorem copy_passes (f : List Col) (n : Nat) (cd ct ce : Flag) (co : Option Flag) (level : Level)
    (ve : List Line → Bool) (hve : ∀ cols, ve cols = true)
    (hct : ∀ c ∈ resolve ct (f.map (·.name)), c ∈ f.map (·.name))
    (hcd : ∀ c ∈ resolve cd (f.map (·.name)), c ∈ f.map (·.name))
    (hce : ∀ c ∈ resolve ce (f.map (·.name)), c ∈ f.map (·.name)) :
    checkDataframe f f n n cd ct ce co level ve = true := by
  rw [check_iff_agree]
  refine ⟨?_, hce, fun _ _ => rfl, rfl, fun c hc => ⟨hcd c hc, hcd c hc⟩, fun _ => hve _⟩
  intro c hc
  refine ⟨hct c hc, hct c hc, ?_⟩
  intro ta tr ha hr
  rw [ha] at hr
  exact Or.inl (Option.some.inj hr)

theorem fails_of_not_agree {act ref : List Col} {nact nref : Nat} {cd ct ce : Flag} {co : Option Flag}
    {level : Level} {ve : List Line → Bool} (h : ¬ Agree act ref nact nref cd ct ce co level ve) :
    checkDataframe act ref nact nref cd ct ce co level ve = false :=
  ListAux.eq_false_of_iff_of_not (check_iff_agree ..) h

theorem rowcount_fails (act ref : List Col) (nact nref : Nat) (cd ct ce : Flag) (co : Option Flag)
    (level : Level) (ve : List Line → Bool) (h : nact ≠ nref) :
    checkDataframe act ref nact nref cd ct ce co level ve = false :=
  fails_of_not_agree fun hA => h hA.rows

theorem missing_column_fails (act ref : List Col) (nact nref : Nat) (cd ct ce : Flag) (co : Option Flag)
    (level : Level) (ve : List Line → Bool) (c : Line)
    (hc : c ∈ resolve ct (ref.map (·.name))) (hm : c ∉ act.map (·.name)) :
    checkDataframe act ref nact nref cd ct ce co level ve = false :=
  fails_of_not_agree fun hA => hm (hA.types c hc).1

theorem extra_column_fails (act ref : List Col) (nact nref : Nat) (cd ct ce : Flag) (co : Option Flag)
    (level : Level) (ve : List Line → Bool) (c : Line)
    (hc : c ∈ resolve ce (act.map (·.name))) (hm : c ∉ ref.map (·.name)) :
    checkDataframe act ref nact nref cd ct ce co level ve = false :=
  fails_of_not_agree fun hA => hm (hA.extra c hc)

theorem wrong_type_fails (act ref : List Col) (nact nref : Nat) (cd ct ce : Flag) (co : Option Flag)
    (level : Level) (ve : List Line → Bool) (c ta tr : Line)
    (hc : c ∈ resolve ct (ref.map (·.name)))
    (ha : dtypeC act c = some ta) (hr : dtypeC ref c = some tr) (hne : ¬ TypesAgree ta tr level) :
    checkDataframe act ref nact nref cd ct ce co level ve = false :=
  fails_of_not_agree fun hA => hne ((hA.types c hc).2.2 ta tr ha hr)

theorem wrong_order_fails (act ref : List Col) (nact nref : Nat) (cd ct ce : Flag) (f : Flag)
    (level : Level) (ve : List Line → Bool)
    (h : (act.map (·.name)).filter (fun c => (resolve f (ref.map (·.name))).contains c && (ref.map (·.name)).contains c)
       ≠ (ref.map (·.name)).filter (fun c => (resolve f (ref.map (·.name))).contains c && (act.map (·.name)).contains c)) :
    checkDataframe act ref nact nref cd ct ce (some f) level ve = false :=
  fails_of_not_agree fun hA => h (hA.order f rfl)

theorem value_difference_fails (act ref : List Col) (nact nref : Nat) (cd ct ce : Flag) (co : Option Flag)
    (level : Level) (ve : List Line → Bool)
    (hne : resolve cd (ref.map (·.name)) ≠ []) (h : ve (resolve cd (ref.map (·.name))) = false) :
    checkDataframe act ref nact nref cd ct ce co level ve = false :=
  fails_of_not_agree fun hA => by
    have := hA.values hne
    rw [h] at this
    exact Bool.false_ne_true this

theorem swap_changes_order (pre mid post : List Line) (a b : Line) (hab : a ≠ b)
    (_hnd : (pre ++ a :: mid ++ b :: post).Nodup) :
    (pre ++ b :: mid ++ a :: post).filter (fun c => (pre ++ a :: mid ++ b :: post).contains c && (pre ++ a :: mid ++ b :: post).contains c)
      ≠ (pre ++ a :: mid ++ b :: post).filter (fun c => (pre ++ a :: mid ++ b :: post).contains c && (pre ++ b :: mid ++ a :: post).contains c) := by
  -- the two frames have the same columns, so both filters keep everything
  have hmem : ∀ c, c ∈ pre ++ b :: mid ++ a :: post ↔ c ∈ pre ++ a :: mid ++ b :: post := fun c => by
    simp only [List.mem_append, List.mem_cons]; exact Iff.of_eq (by ac_rfl)
  have hboth {l l' : List Line} {c : Line} (h : c ∈ l) (h' : c ∈ l') : (l.contains c && l'.contains c) = true := by
    simp [h, h']
  rw [List.filter_eq_self.mpr fun c hc => hboth ((hmem c).1 hc) ((hmem c).1 hc),
    List.filter_eq_self.mpr fun c hc => hboth hc ((hmem c).2 hc), List.append_assoc, List.append_assoc]
  exact fun h => hab (List.cons.inj (List.append_cancel_left h)).1.symm

end TddaVerif.Props.C05.Lemmas
