/- C19: the tagged test loader (classTagged / classMethods / testNames) against the inductive relations of C19Spec.
   Each relation, unfolded one step (`classTagged_def`, `visible_def`), is compared with one step of its fuelled
   function; under `Acyclic` the base class has a smaller index, so the fuel left suffices for it. -/
import TddaVerif.Model.RefTestCase
import TddaVerif.Props.C19Spec
import TddaVerif.Lemmas.SortLines
import TddaVerif.Lemmas.ListAux

namespace TddaVerif.Props.C19.Lemmas
open TddaVerif.Py TddaVerif.RefTestCase TddaVerif.Props.C19

theorem classTagged_def (cs : List TestClass) (i : Nat) :
    ClassTagged cs i ↔
      ∃ c, cs[i]? = some c ∧ (c.ownTag = true ∨ ∃ b, c.base = some b ∧ ClassTagged cs b) :=
  ⟨fun h => by
    cases h with
    | own _ c h1 h2 => exact ⟨c, h1, .inl h2⟩
    | inherited _ b c h1 h2 h3 => exact ⟨c, h1, .inr ⟨b, h2, h3⟩⟩,
   fun ⟨c, hc, h⟩ => h.elim (.own i c hc) fun ⟨b, hb, h⟩ => .inherited i b c hc hb h⟩

theorem visible_def (cs : List TestClass) (i : Nat) (m : Arg) (tg : Bool) :
    Visible cs i m tg ↔
      ∃ c, cs[i]? = some c ∧ (c.own.find? (fun x => x.1 == m) = some (m, tg) ∨
        ∃ b, c.base = some b ∧ (c.own.map (·.1)).contains m = false ∧ Visible cs b m tg) :=
  ⟨fun h => by
    cases h with
    | own _ c _ _ h1 h2 => exact ⟨c, h1, .inl h2⟩
    | inherited _ b c _ _ h1 h2 h3 h4 => exact ⟨c, h1, .inr ⟨b, h2, h3, h4⟩⟩,
   fun ⟨c, hc, h⟩ =>
    h.elim (.own i c m tg hc) fun ⟨b, hb, h3, h⟩ => .inherited i b c m tg hc hb h3 h⟩

theorem classTagged_iff {cs : List TestClass} (hac : Acyclic cs) {i fuel : Nat} (hf : i < fuel) :
    classTagged cs fuel i = true ↔ ClassTagged cs i := by
  fun_induction classTagged cs fuel i with
  | case1 => omega
  | case2 fuel i hc => rw [classTagged_def]; simp [hc]
  | case3 fuel i c hc ih =>
    rw [classTagged_def]
    simp only [hc, Option.some.injEq, exists_eq_left', Bool.or_eq_true]
    refine or_congr_right ?_
    cases hb : c.base with
    | none => simp
    | some b => simpa using ih b (by have := hac i c b hc hb; omega)

theorem visible_iff_find {cs : List TestClass} (hac : Acyclic cs) {m : Arg} {tg : Bool} {i fuel : Nat} (hf : i < fuel) :
    Visible cs i m tg ↔ (classMethods cs fuel i).find? (fun x => x.1 == m) = some (m, tg) := by
  fun_induction classMethods cs fuel i with
  | case1 => omega
  | case2 fuel i hc => rw [visible_def]; simp [hc]
  | case3 fuel i c hc inh ih =>
    rw [visible_def]
    simp only [hc, Option.some.injEq, exists_eq_left', ListAux.find?_override, ← ListAux.find?_key_eq_none_iff]
    cases hown : c.own.find? (fun x => x.1 == m) with
    | some x => simp
    | none =>
      simp only [Option.none_or, false_or, true_and, reduceCtorEq, inh]
      cases hb : c.base with
      | none => simp
      | some b => simpa using ih b (by have := hac i c b hc hb; omega)

theorem classMethods_nodup {cs : List TestClass} (hd : ∀ c ∈ cs, (c.own.map (·.1)).Nodup)
    (fuel i : Nat) : ((classMethods cs fuel i).map (·.1)).Nodup := by
  fun_induction classMethods cs fuel i with
  | case1 => exact .nil
  | case2 => exact .nil
  | case3 fuel i c hc inh ih =>
    refine ListAux.nodup_override (hd c (List.mem_of_getElem? hc)) ?_
    cases hb : c.base with
    | none => simp [inh, hb]
    | some b => simpa [inh, hb] using ih b

theorem mem_testNames (cs : List TestClass) (i : Nat) (t : Bool) (m : Arg) :
    m ∈ testNames cs i t ↔
      m ∈ ((if !t || classTagged cs (cs.length + 1) i then classMethods cs (cs.length + 1) i
            else (classMethods cs (cs.length + 1) i).filter (·.2)).map (·.1)) := by
  unfold testNames
  exact (C04.Lemmas.sortLines_perm _).mem_iff

theorem untagged_selects_all (cs : List TestClass) (hac : Acyclic cs) (i : Nat) (hi : i < cs.length)
    (m : Arg) : m ∈ testNames cs i false ↔ ∃ tg, Visible cs i m tg := by
  rw [mem_testNames, ListAux.mem_map_fst_iff_find?]
  exact exists_congr fun tg => (visible_iff_find hac (Nat.lt_add_one_of_lt hi)).symm

theorem tagged_selects_exactly (cs : List TestClass) (hac : Acyclic cs)
    (hd : ∀ c ∈ cs, (c.own.map (·.1)).Nodup) (i : Nat) (hi : i < cs.length)
    (m : Arg) : m ∈ testNames cs i true ↔ CarriesTag cs i m := by
  rw [mem_testNames]
  simp only [Bool.not_true, Bool.false_or, CarriesTag, visible_iff_find hac (Nat.lt_add_one_of_lt hi),
    ← classTagged_iff hac (Nat.lt_add_one_of_lt hi)]
  by_cases hT : classTagged cs (cs.length + 1) i = true
  · simp [hT, ListAux.mem_map_fst_iff_find?]
  · simp [hT, ListAux.mem_iff_find?_of_nodup (classMethods_nodup hd _ i)]

theorem testNames_nodup {cs : List TestClass} (hd : ∀ c ∈ cs, (c.own.map (·.1)).Nodup) (i : Nat) (tagged : Bool) :
    (testNames cs i tagged).Nodup := by
  unfold testNames
  refine (C04.Lemmas.sortLines_perm _).nodup_iff.mpr ?_
  have hnd := classMethods_nodup hd (cs.length + 1) i
  split
  · exact hnd
  · exact (List.Sublist.map _ List.filter_sublist).nodup hnd

theorem selected_once (cs : List TestClass) (_hac : Acyclic cs)
    (hd : ∀ c ∈ cs, (c.own.map (·.1)).Nodup) (i : Nat) (_hi : i < cs.length) (tagged : Bool) :
    (testNames cs i tagged).Nodup :=
  testNames_nodup hd i tagged

theorem class_at {cs : List TestClass} {i : Nat} {Q : TestClass → Prop} :
    (∃ c, cs[i]? = some c ∧ Q c) ↔ i < cs.length ∧ Q (cs.getD i ⟨[], none, false, []⟩) := by
  by_cases h : i < cs.length <;> simp [h]

theorem selectTests_mem (cs : List TestClass) (tagged : Bool) (n m : Arg) :
    (n, m) ∈ selectTests cs tagged false ↔
      ∃ i c, cs[i]? = some c ∧ c.name = n ∧ m ∈ testNames cs i tagged := by
  simp only [selectTests, Bool.false_eq_true, if_false, ← List.flatMap_def, List.mem_flatMap,
    List.mem_range, List.mem_map, Prod.mk.injEq, class_at]
  exact exists_congr fun i => and_congr_right fun _ => by
    rw [exists_eq_right_right]; exact and_comm

theorem check_lists_exactly (cs : List TestClass) (hac : Acyclic cs)
    (hd : ∀ c ∈ cs, (c.own.map (·.1)).Nodup) (n : Arg) :
    n ∈ listedClasses cs true ↔
      ∃ i c, cs[i]? = some c ∧ c.name = n ∧ ∃ m, CarriesTag cs i m := by
  simp only [listedClasses, if_true, List.mem_map, List.mem_filter, List.mem_range,
    Bool.not_eq_true', List.isEmpty_eq_false_iff_exists_mem, class_at, and_assoc]
  refine exists_congr fun i => and_congr_right fun hi => ?_
  simp only [tagged_selects_exactly cs hac hd i hi, and_comm]

end TddaVerif.Props.C19.Lemmas
