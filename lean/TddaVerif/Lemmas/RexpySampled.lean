/- C03 / C13 under sampling (the loop of Extractor.extract): one round of the loop (`sampledLoop_succ`), what it ends
   with (`LastPass`, `sampledLoop_spec`), that it ends (`sampledLoop_some`), and `extractSampled` in these terms
   (`extractSampled_spec`).  The prefix `l` marks the `let`s of one round of `sampledLoop`, `s` those of
   `extractSampled` before the loop; `A` is all the cleaned examples, `W` the working examples. -/
import TddaVerif.Model.Rexpy
import TddaVerif.Model.RexpySampled
import TddaVerif.Props.C03Spec
import TddaVerif.Lemmas.RexpySound

namespace TddaVerif.Props.C03.SampledLemmas
open TddaVerif.Py TddaVerif.Rexpy TddaVerif.Props.C03 TddaVerif.Props.C03.Lemmas

/-- what is assumed of `random.sample(l, k)` -/
def PickOK (pick : Pick) : Prop :=
  ∀ ev k l, (∀ x ∈ pick ev k l, x ∈ l) ∧ (1 ≤ k → l ≠ [] → pick ev k l ≠ [])

/-- the sampling in `sample_non_matches`, which gives `first` and `failex` -/
def sampleIf (pick : Pick) (b : Bool) (ev k : Nat) (l : List (Line × Nat)) : List (Line × Nat) :=
  if b then pick ev (max 1 k) l else l

theorem sampleIf_sub {pick : Pick} (hp : PickOK pick) {b : Bool} {ev k : Nat} {l : List (Line × Nat)}
    {x : Line × Nat} (hx : x ∈ sampleIf pick b ev k l) : x ∈ l := by
  unfold sampleIf at hx
  split at hx
  · exact (hp ev _ l).1 x hx
  · exact hx

theorem sampleIf_ne_nil {pick : Pick} (hp : PickOK pick) {b : Bool} {ev k : Nat} {l : List (Line × Nat)}
    (hl : l ≠ []) : sampleIf pick b ev k l ≠ [] := by
  unfold sampleIf
  split
  · exact (hp ev _ l).2 (Nat.le_max_left _ _) hl
  · exact hl

/-- `F`: `find_non_matches(rexes)` -/
def lF (T : CharTable) (E : List Char) (A : Cleaned) (ps : List Pattern) : List (Line × Nat) :=
  nonMatches T E (decide (A.nStripped > 0)) ps (A.strings.zip A.freqs)

/-- `s1`: is `failex` a sample? -/
def lS1 (cfg : SampleCfg) (attempt : Nat) (F : List (Line × Nat)) : Bool :=
  decide (attempt ≤ cfg.maxAttempts) && decide (F.length > cfg.doAllExceptions)

/-- `failex` -/
def lFail (cfg : SampleCfg) (pick : Pick) (attempt ev : Nat) (F : List (Line × Nat)) : List (Line × Nat) :=
  sampleIf pick (lS1 cfg attempt F) ev cfg.doAllExceptions F

/-- `ev` once `failex` is drawn -/
def lEv (cfg : SampleCfg) (attempt ev : Nat) (F : List (Line × Nat)) : Nat :=
  if lS1 cfg attempt F then ev + 1 else ev

/-- what the round adds to `self.examples`, and `ev` after it -/
def lNext (cfg : SampleCfg) (pick : Pick) (attempt ev : Nat) (F : List (Line × Nat)) : List (Line × Nat) × Nat :=
  if decide ((lFail cfg pick attempt ev F).length ≤ cfg.doAllExceptions) || !decide (attempt ≤ cfg.maxAttempts) then
    (lFail cfg pick attempt ev F, lEv cfg attempt ev F)
  else (pick (lEv cfg attempt ev F) cfg.doAllExceptions (lFail cfg pick attempt ev F), lEv cfg attempt ev F + 1)

theorem sampledLoop_succ (T : CharTable) (o : Opts) (cfg : SampleCfg) (pick : Pick) (A : Cleaned) (E : List Char)
    (fuel attempt ev : Nat) (W : Cleaned) :
    sampledLoop T o cfg pick A E (fuel + 1) attempt ev W =
      (batchExtractE T o E W).bind fun ps =>
        if (lFail cfg pick attempt ev (lF T E A ps)).all (fun e => W.strings.contains e.1) then some ps
        else sampledLoop T o cfg pick A E fuel (attempt + 1) (lNext cfg pick attempt ev (lF T E A ps)).2
          (addTo W (lNext cfg pick attempt ev (lF T E A ps)).1) := by
  rw [sampledLoop]
  cases batchExtractE T o E W with
  | none => rfl
  | some ps =>
    show (if (lFail cfg pick attempt ev (lF T E A ps)).all (fun e => W.strings.contains e.1) then some ps
      else if decide ((lFail cfg pick attempt ev (lF T E A ps)).length ≤ cfg.doAllExceptions) ||
          !decide (attempt ≤ cfg.maxAttempts) then _ else _) = _
    refine ite_congr rfl (fun _ => rfl) fun _ => ?_
    unfold lNext
    split <;> rfl

theorem wrapP_eq_wrapWs (w : Bool) (p : Pattern) : wrapP w p = wrapWs w p := rfl

theorem mem_lF {T : CharTable} {E : List Char} {A : Cleaned} {ps : List Pattern} {e : Line × Nat} :
    e ∈ lF T E A ps ↔ e ∈ A.strings.zip A.freqs ∧
      ∀ p ∈ ps, ¬ Matches T E (wrapWs (decide (A.nStripped > 0)) p) e.1 := by
  unfold lF nonMatches
  split
  · rename_i hemp
    obtain rfl : ps = [] := by simpa [List.isEmpty_iff] using hemp
    simp
  · simp [List.mem_filter, wrapP_eq_wrapWs, ← matchB_iff]

theorem lF_fst_mem {T : CharTable} {E : List Char} {A : Cleaned} {ps : List Pattern} {e : Line × Nat}
    (h : e ∈ lF T E A ps) : e.1 ∈ A.strings :=
  (List.of_mem_zip ((mem_lF.1 h).1 : (e.1, e.2) ∈ A.strings.zip A.freqs)).1

theorem lF_eq_nil_iff {T : CharTable} {E : List Char} {A : Cleaned} (hlen : A.strings.length = A.freqs.length)
    {ps : List Pattern} :
    lF T E A ps = [] ↔ ∀ s ∈ A.strings, ∃ p ∈ ps, Matches T E (wrapWs (decide (A.nStripped > 0)) p) s := by
  -- the examples are the first components of the pairs the failures are taken from
  conv => rhs; rw [← List.map_fst_zip (Nat.le_of_eq hlen)]
  simp only [List.eq_nil_iff_forall_not_mem, mem_lF, List.forall_mem_map, not_and, Classical.not_forall,
    Classical.not_not, exists_prop]

theorem lNext_sub {pick : Pick} (hp : PickOK pick) {cfg : SampleCfg} {attempt ev : Nat} {F : List (Line × Nat)}
    {x : Line × Nat} (hx : x ∈ (lNext cfg pick attempt ev F).1) : x ∈ F := by
  unfold lNext at hx
  split at hx
  · exact sampleIf_sub hp hx
  · exact sampleIf_sub hp ((hp _ _ _).1 x hx)

theorem lNext_of_lt (cfg : SampleCfg) (pick : Pick) {attempt : Nat} (ev : Nat) (F : List (Line × Nat))
    (h : cfg.maxAttempts < attempt) : lFail cfg pick attempt ev F = F ∧ (lNext cfg pick attempt ev F).1 = F := by
  have h' : ¬ attempt ≤ cfg.maxAttempts := Nat.not_le.2 h
  simp [lNext, lFail, sampleIf, lS1, h']

theorem addTo_strings (W : Cleaned) (xs : List (Line × Nat)) :
    (addTo W xs).strings = W.strings ++ xs.map (·.1) := rfl

theorem addTo_nStripped (W : Cleaned) (xs : List (Line × Nat)) : (addTo W xs).nStripped = W.nStripped := rfl

/-- how the loop ends; `test` is the end-of-loop test (`all(s in known for s in failex.strings)`) seen through an
    honest sampler -/
structure LastPass (T : CharTable) (o : Opts) (E : List Char) (A W : Cleaned) (ps : List Pattern) : Prop where
  sub : ∀ s ∈ W.strings, s ∈ A.strings
  nStripped : W.nStripped = A.nStripped
  pass : batchExtractE T o E W = some ps
  test : lF T E A ps ≠ [] → ∃ e ∈ lF T E A ps, e.1 ∈ W.strings

theorem sampledLoop_spec {T : CharTable} {o : Opts} {cfg : SampleCfg} {pick : Pick} (hp : PickOK pick)
    {A : Cleaned} {E : List Char} {ps : List Pattern} {fuel attempt ev : Nat} {W : Cleaned}
    (hW : ∀ s ∈ W.strings, s ∈ A.strings) (hn : W.nStripped = A.nStripped)
    (h : sampledLoop T o cfg pick A E fuel attempt ev W = some ps) : ∃ W', LastPass T o E A W' ps := by
  induction fuel generalizing attempt ev W with
  | zero => cases h
  | succ n ih =>
    rw [sampledLoop_succ] at h
    obtain ⟨qs, hb, h⟩ := Option.bind_eq_some_iff.1 h
    split at h
    · rename_i hall
      obtain rfl : qs = ps := Option.some.inj h
      refine ⟨W, hW, hn, hb, fun hne => ?_⟩
      obtain ⟨e, he⟩ := List.exists_mem_of_ne_nil (lFail cfg pick attempt ev _) (sampleIf_ne_nil hp hne)
      exact ⟨e, sampleIf_sub hp he, List.contains_iff_mem.1 (List.all_eq_true.1 hall e he)⟩
    · refine ih (W := addTo W _) (fun s hs => ?_) hn h
      rw [addTo_strings, List.mem_append] at hs
      rcases hs with hs | hs
      · exact hW s hs
      · obtain ⟨x, hx, rfl⟩ := List.mem_map.1 hs
        exact lF_fst_mem (lNext_sub hp hx)

theorem LastPass.covers {T : CharTable} {o : Opts} {E : List Char} {A W : Cleaned} {ps : List Pattern}
    (h : LastPass T o E A W ps) (hT : Consistent T) (hcap : 1 ≤ o.sizes.maxStringsInGroup)
    (hlen : A.strings.length = A.freqs.length) :
    ∀ s ∈ A.strings, ∃ p ∈ ps, Matches T E (wrapWs (decide (A.nStripped > 0)) p) s := by
  rw [← lF_eq_nil_iff hlen]
  apply Classical.byContradiction
  intro hne
  -- a failure among the working examples contradicts the soundness of the pass for them
  obtain ⟨e, heF, heW⟩ := h.test hne
  obtain ⟨p, hpp, hm⟩ := batchExtractE_sound hT hcap h.pass e.1 heW
  rw [h.nStripped] at hm
  exact (mem_lF.1 heF).2 p hpp hm

def missing (A W : Cleaned) : Nat := (A.strings.filter (fun s => !W.strings.contains s)).length

theorem missing_addTo (A W : Cleaned) (xs : List (Line × Nat)) :
    missing A (addTo W xs) =
      ((A.strings.filter (fun s => !W.strings.contains s)).filter (fun s => !(xs.map (·.1)).contains s)).length := by
  unfold missing
  rw [List.filter_filter, addTo_strings]
  simp only [List.contains_append, Bool.not_or, Bool.and_comm]

theorem missing_addTo_le (A W : Cleaned) (xs : List (Line × Nat)) : missing A (addTo W xs) ≤ missing A W :=
  missing_addTo A W xs ▸ List.length_filter_le _ _

theorem missing_addTo_lt {A W : Cleaned} {xs : List (Line × Nat)} {e : Line × Nat} (he : e ∈ xs)
    (heA : e.1 ∈ A.strings) (heW : e.1 ∉ W.strings) : missing A (addTo W xs) < missing A W := by
  rw [missing_addTo]
  refine List.length_filter_lt_length_iff_exists.2 ⟨e.1, List.mem_filter.2 ⟨heA, ?_⟩, ?_⟩
  · rwa [Bool.not_eq_true', ← Bool.not_eq_true, List.contains_iff_mem]
  · rw [Bool.not_eq_true, Bool.not_eq_false', List.contains_iff_mem]
    exact List.mem_map_of_mem he

theorem sampledLoop_some {T : CharTable} (hT : Consistent T) {o : Opts} {cfg : SampleCfg} {pick : Pick}
    {A : Cleaned} {E : List Char} {fuel attempt ev : Nat} {W : Cleaned}
    (hfuel : (cfg.maxAttempts + 1 - attempt) + missing A W + 1 ≤ fuel) :
    ∃ ps, sampledLoop T o cfg pick A E fuel attempt ev W = some ps := by
  induction fuel generalizing attempt ev W with
  | zero => omega
  | succ n ih =>
    have hb := batchExtractE_some hT o E W
    generalize merged _ = ps at hb
    rw [sampledLoop_succ, hb, Option.bind_some]
    split
    · exact ⟨ps, rfl⟩
    · rename_i hall
      apply ih
      -- a round that does not end the loop uses up a sampled attempt or, adding all the failures, adds a new example
      by_cases hsamp : attempt ≤ cfg.maxAttempts
      · have := missing_addTo_le A W (lNext cfg pick attempt ev (lF T E A ps)).1
        omega
      · obtain ⟨h1, h2⟩ := lNext_of_lt cfg pick ev (lF T E A ps) (Nat.not_le.1 hsamp)
        rw [h1] at hall
        rw [h2]
        obtain ⟨e, he, heW⟩ := List.all_eq_false.1 (Bool.eq_false_iff.2 hall)
        have := missing_addTo_lt he (lF_fst_mem he) fun h => heW (List.contains_iff_mem.2 h)
        omega

theorem sampledLoop_some_of_model_fuel (T : CharTable) (hT : Consistent T) (o : Opts) (cfg : SampleCfg) (pick : Pick)
    (A : Cleaned) (E : List Char) (ev : Nat) (W : Cleaned) :
    ∃ ps, sampledLoop T o cfg pick A E (A.strings.length + cfg.maxAttempts + 2) 1 ev W = some ps :=
  sampledLoop_some hT (by
    have : missing A W ≤ A.strings.length := List.length_filter_le _ _
    omega)

/-- `ex`: `self.all_examples` -/
def sEx (o : Opts) (items : List (Option Line × Nat)) : List (Line × Nat) := (cleaned o items).strings.zip (cleaned o items).freqs

/-- `s0`: are the first working examples a sample? -/
def sS0 (o : Opts) (cfg : SampleCfg) (items : List (Option Line × Nat)) : Bool :=
  decide ((sEx o items).length > cfg.doAll) && decide ((sEx o items).length > cfg.doAllExceptions)

/-- `first`: `self.check_fn([], self.size.do_all)` -/
def sFirst (o : Opts) (cfg : SampleCfg) (pick : Pick) (items : List (Option Line × Nat)) : List (Line × Nat) :=
  sampleIf pick (sS0 o cfg items) 0 cfg.doAllExceptions (sEx o items)

/-- `W0`: `self.examples` as `__init__` leaves it, every count 1 -/
def sW0 (o : Opts) (cfg : SampleCfg) (pick : Pick) (items : List (Option Line × Nat)) : Cleaned :=
  { strings := (sFirst o cfg pick items).map (·.1), freqs := (sFirst o cfg pick items).map (fun _ => 1),
    nStripped := (cleaned o items).nStripped }

/-- `E`: `self.thin_extras(extra_letters)` -/
def sE (o : Opts) (cfg : SampleCfg) (pick : Pick) (items : List (Option Line × Nat)) : List Char :=
  thinExtras o.extras (sW0 o cfg pick items).strings

-- with the loop sealed `rfl` compares the two calls of it argument by argument; otherwise it first runs both of
-- them two passes deep (the fuel ends in `+ 2`), at a hundred times the cost
seal sampledLoop in
theorem extractSampled_eq (T : CharTable) (o : Opts) (cfg : SampleCfg) (pick : Pick)
    (items : List (Option Line × Nat)) :
    extractSampled T o cfg pick items =
      if (sW0 o cfg pick items).strings.isEmpty then some ([], [], false)
      else
        match sampledLoop T o cfg pick (cleaned o items) (sE o cfg pick items)
            ((cleaned o items).strings.length + cfg.maxAttempts + 2) 1 (if sS0 o cfg items then 1 else 0)
            (sW0 o cfg pick items) with
        | none => none
        | some ps => some (pruned T o (sE o cfg pick items) (cleaned o items) ps, sE o cfg pick items,
            decide ((cleaned o items).nStripped > 0)) := rfl

theorem sEx_fst (o : Opts) (items : List (Option Line × Nat)) : (sEx o items).map (·.1) = (cleaned o items).strings :=
  List.map_fst_zip (Nat.le_of_eq (clean_strings_length _ _ items))

theorem sW0_sub {pick : Pick} (hp : PickOK pick) (o : Opts) (cfg : SampleCfg) (items : List (Option Line × Nat)) :
    ∀ s ∈ (sW0 o cfg pick items).strings, s ∈ (cleaned o items).strings := by
  intro s hs
  obtain ⟨x, hx, rfl⟩ := List.mem_map.1 hs
  rw [← sEx_fst]
  exact List.mem_map_of_mem (sampleIf_sub hp hx)

theorem cleaned_nil_of_sW0_nil {pick : Pick} (hp : PickOK pick) (o : Opts) (cfg : SampleCfg) (items : List (Option Line × Nat))
    (h : (sW0 o cfg pick items).strings = []) : (cleaned o items).strings = [] := by
  have hf : sFirst o cfg pick items = [] := List.map_eq_nil_iff.1 h
  rw [← sEx_fst, Classical.not_not.1 fun hne => sampleIf_ne_nil hp hne hf]
  rfl

theorem extractSampled_spec {T : CharTable} {o : Opts} {cfg : SampleCfg} {pick : Pick} (hp : PickOK pick)
    {items : List (Option Line × Nat)} {ps : List Pattern} {E : List Char} {w : Bool}
    (h : extractSampled T o cfg pick items = some (ps, E, w)) :
    ((cleaned o items).strings = [] ∧ ps = []) ∨
    w = decide ((cleaned o items).nStripped > 0) ∧
      ∃ W qs, LastPass T o E (cleaned o items) W qs ∧ ps = pruned T o E (cleaned o items) qs := by
  rw [extractSampled_eq] at h
  split at h
  · rename_i hemp
    cases h
    exact Or.inl ⟨cleaned_nil_of_sW0_nil hp o cfg items (by simpa using hemp), rfl⟩
  · split at h
    · cases h
    rename_i qs hl
    cases h
    obtain ⟨W, hW⟩ := sampledLoop_spec hp (sW0_sub hp o cfg items) rfl hl
    exact Or.inr ⟨rfl, W, qs, hW, rfl⟩

/-- `htest`: the first pass passes the end-of-loop test (by soundness of the pass, or by an honest sampler) -/
theorem extractSampled_eq_extract_of_test (T : CharTable) (o : Opts) (cfg : SampleCfg) (pick : Pick)
    (items : List (Option Line × Nat))
    (hsmall : (cleaned o items).strings.length ≤ cfg.doAll)
    (htest : ∀ ps, batchExtractE T o (thinExtras o.extras (cleaned o items).strings) (cleaned o items) = some ps →
      ∀ e ∈ lFail cfg pick 1 0 (lF T (thinExtras o.extras (cleaned o items).strings) (cleaned o items) ps),
        e.1 ∈ (cleaned o items).strings) :
    extractSampled T o cfg pick items = extract T o items := by
  have hs0 : sS0 o cfg items = false := by
    have : (sEx o items).length = (cleaned o items).strings.length := by rw [← sEx_fst, List.length_map]
    have : ¬ (cleaned o items).strings.length > cfg.doAll := Nat.not_lt.2 hsmall
    simp [sS0, *]
  have hWs : (sW0 o cfg pick items).strings = (cleaned o items).strings := by
    simp only [sW0, sFirst, hs0]
    exact sEx_fst o items
  rw [extractSampled_eq, extract_eq, sE, hWs, hs0]
  split
  · rfl
  · simp only [Bool.false_eq_true, if_false]
    rw [sampledLoop_succ, batchExtractE_congr T o _ hWs rfl]
    cases hq : batchExtractE T o (thinExtras o.extras (cleaned o items).strings) (cleaned o items) with
    | none => rfl
    | some ps =>
      have hall : (lFail cfg pick 1 0 (lF T (thinExtras o.extras (cleaned o items).strings) (cleaned o items) ps)).all
          (fun e => (sW0 o cfg pick items).strings.contains e.1) = true := by
        rw [hWs]
        simpa using htest ps hq
      simp only [Option.bind_some, Option.map_some, if_pos hall]

theorem extractSampled_eq_extract_of_pick (T : CharTable) (o : Opts)
    (cfg : SampleCfg) (pick : Pick) (hp : PickOK pick)
    (items : List (Option Line × Nat))
    (hsmall : (clean o.stripOpt o.removeEmpties items).strings.length ≤ cfg.doAll) :
    extractSampled T o cfg pick items = extract T o items :=
  extractSampled_eq_extract_of_test T o cfg pick items hsmall fun _ _ _ he =>
    lF_fst_mem (sampleIf_sub hp he)

end TddaVerif.Props.C03.SampledLemmas
