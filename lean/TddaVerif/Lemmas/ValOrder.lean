/- The order on `Val`: `lt` and `eqv` are the order and the equality of a key (a number, a string or
   a date), so the order facts come from `Rat`, `List Char` and `Int`.  `minOf` and `maxOf` are one fold;
   `dedup` keeps a sublist of representatives; `sortVals` permutes. -/
import TddaVerif.Model.Constraints
import TddaVerif.Lemmas.PyText
import TddaVerif.Lemmas.ListAux

namespace TddaVerif.Constraints.Order
open TddaVerif.Constraints

theorem ltChars_eq_ltLine : ∀ a b, ltChars a b = Py.ltLine a b
  | [], [] | [], _ :: _ | _ :: _, [] => rfl
  | a :: as, b :: bs => by rw [ltChars, Py.ltLine, ltChars_eq_ltLine as bs]

theorem ltChars_iff (a b : List Char) : ltChars a b = true ↔ a < b := by
  rw [ltChars_eq_ltLine]; exact Py.ltLine_iff a b

theorem ltChars_asymm (a b : List Char) (h : ltChars a b = true) : ltChars b a = false := by
  rw [ltChars_eq_ltLine] at *; exact Py.ltLine_asymm h

/-- What `lt` and `eqv` see of a value (`lt_iff`, `eqv_iff`); a bool is the number 0 or 1, as in Python. -/
inductive Key
  | n (q : Rat)
  | s (x : List Char)
  | d (t : Int)

def key : Val → Key
  | .b x => .n (if x then 1 else 0)
  | .i x => .n x
  | .r x => .n x
  | .s x => .s x
  | .d t => .d t

def Key.coarse : Key → Coarse
  | .n _ => .number
  | .s _ => .string
  | .d _ => .date

inductive Key.Lt : Key → Key → Prop
  | n {p q : Rat} : p < q → Lt (.n p) (.n q)
  | s {x y : List Char} : x < y → Lt (.s x) (.s y)
  | d {t u : Int} : t < u → Lt (.d t) (.d u)

theorem Key.Lt.irrefl : ∀ {a : Key}, ¬ a.Lt a
  | _, .n h => Std.lt_irrefl h
  | _, .s h => Std.lt_irrefl h
  | _, .d h => Std.lt_irrefl h

theorem Key.Lt.trans : ∀ {a b c : Key}, a.Lt b → b.Lt c → a.Lt c
  | _, _, _, .n h1, .n h2 => .n (Std.lt_trans h1 h2)
  | _, _, _, .s h1, .s h2 => .s (Std.lt_trans h1 h2)
  | _, _, _, .d h1, .d h2 => .d (Std.lt_trans h1 h2)

theorem Key.Lt.coarse_eq : ∀ {a b : Key}, a.Lt b → a.coarse = b.coarse
  | _, _, .n _ => rfl
  | _, _, .s _ => rfl
  | _, _, .d _ => rfl

theorem Key.lt_trichotomy : ∀ {a b : Key}, a.coarse = b.coarse → a.Lt b ∨ a = b ∨ b.Lt a
  | .n p, .n q, _ => (Std.lt_trichotomy p q).imp .n (.imp (congrArg _) .n)
  | .s x, .s y, _ => (Std.lt_trichotomy x y).imp .s (.imp (congrArg _) .s)
  | .d t, .d u, _ => (Std.lt_trichotomy t u).imp .d (.imp (congrArg _) .d)

@[simp] theorem Key.n_lt_n {p q : Rat} : (Key.n p).Lt (.n q) ↔ p < q := ⟨fun | .n h => h, .n⟩
@[simp] theorem Key.s_lt_s {x y : List Char} : (Key.s x).Lt (.s y) ↔ x < y := ⟨fun | .s h => h, .s⟩
@[simp] theorem Key.d_lt_d {t u : Int} : (Key.d t).Lt (.d u) ↔ t < u := ⟨fun | .d h => h, .d⟩

theorem coarse_key (v : Val) : (key v).coarse = v.coarse := by cases v <;> rfl

theorem eqv_iff {a b : Val} : a.eqv b = true ↔ key a = key b := by
  cases a <;> cases b <;> simp [Val.eqv, Val.num, key]

theorem lt_iff {a b : Val} : a.lt b = true ↔ (key a).Lt (key b) := by
  cases a <;> cases b <;> simp [Val.lt, Val.num, key, ltChars_iff] <;> nofun

@[simp] theorem lt_b (x y : Bool) : (Val.b x).lt (Val.b y) = (!x && y) := by
  cases x <;> cases y <;> rfl
@[simp] theorem lt_i (x y : Int) : (Val.i x).lt (Val.i y) = decide (x < y) := by
  simp [Val.lt, Val.num, Rat.intCast_lt_intCast]
@[simp] theorem lt_r (x y : Rat) : (Val.r x).lt (Val.r y) = decide (x < y) := by
  simp [Val.lt, Val.num]
@[simp] theorem lt_s (x y : List Char) : (Val.s x).lt (Val.s y) = ltChars x y := by
  simp [Val.lt, Val.num]
@[simp] theorem lt_d (x y : Int) : (Val.d x).lt (Val.d y) = decide (x < y) := by
  simp [Val.lt, Val.num]

@[simp] theorem eqv_b (x y : Bool) : (Val.b x).eqv (Val.b y) = (x == y) := by
  cases x <;> cases y <;> rfl
@[simp] theorem eqv_i (x y : Int) : (Val.i x).eqv (Val.i y) = (x == y) := by
  simp only [Val.eqv, Val.num]
  rw [Bool.eq_iff_iff]; simp [Rat.intCast_inj]
@[simp] theorem eqv_r (x y : Rat) : (Val.r x).eqv (Val.r y) = (x == y) := by
  simp [Val.eqv, Val.num]
@[simp] theorem eqv_s (x y : List Char) : (Val.s x).eqv (Val.s y) = (x == y) := by
  simp [Val.eqv, Val.num]
@[simp] theorem eqv_d (x y : Int) : (Val.d x).eqv (Val.d y) = (x == y) := by
  simp [Val.eqv, Val.num]

theorem eqv_iff_eq {a b : Val} (h : a.ftype = b.ftype) : a.eqv b = true ↔ a = b := by
  cases a <;> cases b <;> simp [Val.ftype] at h <;> simp

theorem coarse_of_ftype {a b : Val} (h : a.ftype = b.ftype) : a.coarse = b.coarse := by
  cases a <;> cases b <;> simp [Val.ftype, Val.coarse] at *

theorem le_iff {a b : Val} : a.le b = true ↔ (key a).Lt (key b) ∨ key a = key b := by
  rw [Val.le, Bool.or_eq_true, lt_iff, eqv_iff]

theorem eqv_refl (v : Val) : v.eqv v = true := eqv_iff.mpr rfl

theorem eqv_symm {a b : Val} (h : a.eqv b = true) : b.eqv a = true := eqv_iff.mpr (eqv_iff.mp h).symm

theorem eqv_trans {a b c : Val} (h1 : a.eqv b = true) (h2 : b.eqv c = true) : a.eqv c = true :=
  eqv_iff.mpr ((eqv_iff.mp h1).trans (eqv_iff.mp h2))

theorem lt_irrefl (v : Val) : v.lt v = false := Bool.eq_false_iff.mpr fun h => (lt_iff.mp h).irrefl

theorem lt_trans {a b c : Val} (h1 : a.lt b = true) (h2 : b.lt c = true) : a.lt c = true :=
  lt_iff.mpr ((lt_iff.mp h1).trans (lt_iff.mp h2))

theorem lt_asymm {a b : Val} (h : a.lt b = true) : b.lt a = false :=
  Bool.eq_false_iff.mpr fun h' => ((lt_iff.mp h).trans (lt_iff.mp h')).irrefl

theorem le_refl (v : Val) : v.le v = true := le_iff.mpr (.inr rfl)

theorem le_of_lt {a b : Val} (h : a.lt b = true) : a.le b = true := le_iff.mpr (.inl (lt_iff.mp h))

theorem le_trans {a b c : Val} (h1 : a.le b = true) (h2 : b.le c = true) : a.le c = true :=
  le_iff.mpr <| match le_iff.mp h1, le_iff.mp h2 with
    | .inr h1, h2 => h1 ▸ h2
    | .inl h1, .inl h2 => .inl (h1.trans h2)
    | .inl h1, .inr h2 => .inl (h2 ▸ h1)

theorem lt_of_lt_of_le {a b c : Val} (h1 : a.lt b = true) (h2 : b.le c = true) : a.lt c = true :=
  lt_iff.mpr ((le_iff.mp h2).elim (lt_iff.mp h1).trans (· ▸ lt_iff.mp h1))

theorem lt_of_le_of_lt {a b c : Val} (h1 : a.le b = true) (h2 : b.lt c = true) : a.lt c = true :=
  lt_iff.mpr ((le_iff.mp h1).elim (·.trans (lt_iff.mp h2)) (· ▸ lt_iff.mp h2))

theorem le_false_of_lt {a b : Val} (h : a.lt b = true) : b.le a = false :=
  Bool.eq_false_iff.mpr fun h' => Bool.eq_false_iff.mp (lt_irrefl a) (lt_of_lt_of_le h h')

theorem le_antisymm (a b : Val) (h1 : a.le b = true) (h2 : b.le a = true) : a.eqv b = true :=
  eqv_iff.mpr <| (le_iff.mp h1).resolve_left fun h =>
    Bool.eq_false_iff.mp (lt_irrefl a) (lt_of_lt_of_le (lt_iff.mpr h) h2)

theorem le_coarse {a b : Val} (h : a.le b = true) : a.coarse = b.coarse := by
  rw [← coarse_key a, ← coarse_key b]
  exact (le_iff.mp h).elim Key.Lt.coarse_eq (congrArg _)

theorem not_lt_iff_le {a b : Val} (h : a.coarse = b.coarse) : a.lt b = false ↔ b.le a = true := by
  rw [← Bool.not_eq_true, lt_iff, le_iff]
  have hk : (key a).coarse = (key b).coarse := by rwa [coarse_key, coarse_key]
  exact ⟨fun hn => ((Key.lt_trichotomy hk).resolve_left hn).symm.imp_right Eq.symm,
    fun h' hlt => h'.elim (fun h' => (hlt.trans h').irrefl) fun h' => (h' ▸ hlt).irrefl⟩

theorem le_total (a b : Val) (h : a.coarse = b.coarse) : a.le b = true ∨ b.le a = true := by
  cases hlt : a.lt b
  · exact .inr ((not_lt_iff_le h).mp hlt)
  · exact .inl (le_of_lt hlt)

theorem num_isSome_iff_coarse (v : Val) : v.num.isSome = true ↔ v.coarse = .number := by
  cases v <;> simp [Val.num, Val.coarse]

theorem lt_num {a b : Val} {p q : Rat} (ha : a.num = some p) (hb : b.num = some q) :
    a.lt b = true ↔ p < q := by
  simp [Val.lt, ha, hb]

theorem le_num {a b : Val} {p q : Rat} (ha : a.num = some p) (hb : b.num = some q) :
    a.le b = true ↔ p ≤ q := by
  simp [Val.le, Val.lt, Val.eqv, ha, hb, Rat.le_iff_lt_or_eq]

theorem num_of_coarse {a b : Val} {p : Rat} (h : a.coarse = b.coarse) (ha : a.num = some p) :
    ∃ q, b.num = some q := by
  rw [← Option.isSome_iff_exists, num_isSome_iff_coarse, ← h, ← num_isSome_iff_coarse, ha]; rfl

/-- `minOf` and `maxOf` are this fold, with `v.lt m` and `m.lt v` for `r v m`. -/
def extr {α : Type} (r : α → α → Bool) : List α → Option α
  | [] => none
  | v :: vs => match extr r vs with
    | none => some v
    | some m => if r v m then some v else some m

theorem extr_eq_none {α : Type} (r : α → α → Bool) : ∀ l : List α, extr r l = none ↔ l = []
  | [] => iff_of_true rfl rfl
  | v :: vs => by
    rw [extr]
    cases extr r vs <;> simp [apply_ite (· = none)]

theorem extr_spec {α : Type} {r : α → α → Bool} (hirr : ∀ a, r a a = false)
    (htr : ∀ {a b c}, r a b = true → r b c = true → r a c = true) :
    ∀ {l : List α} {m : α}, extr r l = some m → m ∈ l ∧ ∀ x ∈ l, r x m = false
  | v :: vs, m, h => by
    simp only [extr] at h
    split at h
    · rename_i hn
      cases h; cases (extr_eq_none r vs).mp hn
      simp [hirr]
    · rename_i m' hm'
      obtain ⟨hmem, hall⟩ := extr_spec hirr htr hm'
      split at h <;> cases h <;> rename_i hr
      · exact ⟨List.mem_cons_self, List.forall_mem_cons.mpr ⟨hirr _, fun x hx =>
          Bool.eq_false_iff.mpr fun hxm => by simpa [hall x hx] using htr hxm hr⟩⟩
      · exact ⟨List.mem_cons_of_mem _ hmem, List.forall_mem_cons.mpr ⟨by simpa using hr, hall⟩⟩

theorem minOf_eq_extr : ∀ l, minOf l = extr (fun v m => v.lt m) l
  | [] => rfl
  | v :: vs => by rw [minOf, extr, minOf_eq_extr vs]; cases extr _ vs <;> rfl

theorem maxOf_eq_extr : ∀ l, maxOf l = extr (fun v m => m.lt v) l
  | [] => rfl
  | v :: vs => by rw [maxOf, extr, maxOf_eq_extr vs]; cases extr _ vs <;> rfl

theorem minOf_eq_none {l : List Val} : minOf l = none ↔ l = [] := by
  rw [minOf_eq_extr, extr_eq_none]

theorem maxOf_eq_none {l : List Val} : maxOf l = none ↔ l = [] := by
  rw [maxOf_eq_extr, extr_eq_none]

theorem exists_minOf {l : List Val} (h : l ≠ []) : ∃ m, minOf l = some m :=
  Option.ne_none_iff_exists'.mp (mt minOf_eq_none.mp h)

theorem exists_maxOf {l : List Val} (h : l ≠ []) : ∃ m, maxOf l = some m :=
  Option.ne_none_iff_exists'.mp (mt maxOf_eq_none.mp h)

theorem minOf_spec {l : List Val} {m : Val} (h : minOf l = some m) : m ∈ l ∧ ∀ x ∈ l, x.lt m = false :=
  extr_spec lt_irrefl lt_trans (minOf_eq_extr l ▸ h)

theorem maxOf_spec {l : List Val} {m : Val} (h : maxOf l = some m) : m ∈ l ∧ ∀ x ∈ l, m.lt x = false :=
  extr_spec (r := fun v m : Val => m.lt v) lt_irrefl (fun h1 h2 => lt_trans h2 h1)
    (maxOf_eq_extr l ▸ h)

theorem minOf_mem {l : List Val} {m : Val} (h : minOf l = some m) : m ∈ l := (minOf_spec h).1

theorem maxOf_mem {l : List Val} {m : Val} (h : maxOf l = some m) : m ∈ l := (maxOf_spec h).1

def SameCoarse (l : List Val) : Prop := ∀ x ∈ l, ∀ y ∈ l, x.coarse = y.coarse

theorem SameCoarse.sublist {l l' : List Val} (h : SameCoarse l) (hl : l'.Sublist l) : SameCoarse l' :=
  fun x hx y hy => h x (hl.subset hx) y (hl.subset hy)

theorem minOf_not_lt (l : List Val) (m : Val) (hs : SameCoarse l) (h : minOf l = some m) :
    ∀ x ∈ l, x.lt m = false :=
  have _ := hs  -- not needed: `lt` is a strict order on all of `Val`
  (minOf_spec h).2

theorem maxOf_not_lt (l : List Val) (m : Val) (hs : SameCoarse l) (h : maxOf l = some m) :
    ∀ x ∈ l, m.lt x = false :=
  have _ := hs  -- not needed
  (maxOf_spec h).2

theorem minOf_least {l : List Val} {m : Val} (hs : SameCoarse l) (h : minOf l = some m) :
    m ∈ l ∧ ∀ x ∈ l, m.le x = true :=
  have ⟨hm, hall⟩ := minOf_spec h
  ⟨hm, fun x hx => (not_lt_iff_le (hs x hx m hm)).mp (hall x hx)⟩

theorem maxOf_greatest {l : List Val} {m : Val} (hs : SameCoarse l) (h : maxOf l = some m) :
    m ∈ l ∧ ∀ x ∈ l, x.le m = true :=
  have ⟨hm, hall⟩ := maxOf_spec h
  ⟨hm, fun x hx => (not_lt_iff_le (hs m hm x hx)).mp (hall x hx)⟩

theorem minOf_isSome_iff_maxOf (l : List Val) : (minOf l).isSome = (maxOf l).isSome := by
  rw [Bool.eq_iff_iff, Option.isSome_iff_ne_none, Option.isSome_iff_ne_none, Ne, Ne, minOf_eq_none,
    maxOf_eq_none]

theorem dedup_sublist : ∀ l : List Val, (dedup l).Sublist l
  | [] => .slnil
  | x :: xs => by
    simp only [dedup]
    split
    · exact (dedup_sublist xs).cons x
    · exact (dedup_sublist xs).cons_cons x

theorem dedup_pairwise : ∀ l : List Val, (dedup l).Pairwise (fun a b => a.eqv b = false)
  | [] => by simp [dedup]
  | x :: xs => by
    simp only [dedup]
    split
    · exact dedup_pairwise xs
    · rename_i hany
      refine List.pairwise_cons.mpr ⟨fun w hw => Bool.eq_false_iff.mpr fun hxw => hany ?_, dedup_pairwise xs⟩
      exact List.any_eq_true.mpr ⟨w, hw, eqv_symm hxw⟩

theorem exists_dedup_eqv : ∀ {l : List Val} {v : Val}, v ∈ l → ∃ w ∈ dedup l, w.eqv v = true
  | x :: xs, v, hv => by
    simp only [dedup]
    split
    · rename_i hany
      exact (List.mem_cons.mp hv).elim (· ▸ List.any_eq_true.mp hany) exists_dedup_eqv
    · rcases List.mem_cons.mp hv with rfl | hv
      · exact ⟨v, List.mem_cons_self, eqv_refl v⟩
      · obtain ⟨w, hw, hwv⟩ := exists_dedup_eqv hv
        exact ⟨w, List.mem_cons_of_mem _ hw, hwv⟩

theorem dedup_eq_self : ∀ {l : List Val}, l.Pairwise (fun a b => a.eqv b = false) → dedup l = l
  | [], _ => rfl
  | x :: xs, h => by
    rw [List.pairwise_cons] at h
    simp only [dedup, dedup_eq_self h.2]
    rw [if_neg]
    intro hany
    obtain ⟨u, hu, hux⟩ := List.any_eq_true.mp hany
    simpa [eqv_symm hux] using h.1 u hu

theorem mem_of_mem_dedup {l : List Val} {v : Val} (h : v ∈ dedup l) : v ∈ l := (dedup_sublist l).subset h

theorem dedup_eq_nil {l : List Val} : dedup l = [] ↔ l = [] :=
  ⟨fun h => List.eq_nil_iff_forall_not_mem.mpr fun _ hv =>
    let ⟨_, hw, _⟩ := exists_dedup_eqv hv; List.not_mem_nil (h ▸ hw), by rintro rfl; rfl⟩

theorem dedup_length_eq_iff {l : List Val} :
    (dedup l).length = l.length ↔ l.Pairwise (fun a b => a.eqv b = false) :=
  ⟨fun h => (dedup_sublist l).eq_of_length h ▸ dedup_pairwise l, fun h => by rw [dedup_eq_self h]⟩

theorem mem_dedup {t : FType} {l : List Val} (ht : ∀ v ∈ l, v.ftype = t) (v : Val) : v ∈ dedup l ↔ v ∈ l := by
  refine ⟨mem_of_mem_dedup, fun hv => ?_⟩
  obtain ⟨w, hw, hwv⟩ := exists_dedup_eqv hv
  rwa [← (eqv_iff_eq (by rw [ht w (mem_of_mem_dedup hw), ht v hv])).mp hwv]

theorem forall_mem_dedup {P : Val → Prop} (hP : ∀ a b, a.eqv b = true → P a → P b) (l : List Val) :
    (∀ w ∈ dedup l, P w) ↔ ∀ v ∈ l, P v :=
  ⟨fun h v hv => let ⟨w, hw, hwv⟩ := exists_dedup_eqv hv; hP w v hwv (h w hw),
   fun h w hw => h w (mem_of_mem_dedup hw)⟩

theorem length_le_of_matched : ∀ {l vs : List Val},
    l.Pairwise (fun a b => a.eqv b = false) → (∀ u ∈ l, ∃ a ∈ vs, a.eqv u = true) →
    l.length ≤ vs.length
  | [], _, _, _ => Nat.zero_le _
  | u :: us, vs, hp, hm => by
    obtain ⟨hu, hp⟩ := List.pairwise_cons.mp hp
    obtain ⟨a, ha, hau⟩ := hm u List.mem_cons_self
    -- `a` matches no other member, so the others are matched in `vs.erase a`
    have ih := length_le_of_matched (vs := vs.erase a) hp fun u' hu' => by
      obtain ⟨a', ha', hau'⟩ := hm u' (List.mem_cons_of_mem _ hu')
      refine ⟨a', (List.mem_erase_of_ne ?_).mpr ha', hau'⟩
      rintro rfl
      simpa [eqv_trans (eqv_symm hau) hau'] using hu u' hu'
    have := List.length_pos_of_mem ha
    rw [List.length_erase_of_mem ha] at ih
    simp only [List.length_cons]
    omega

theorem insertVal_perm (x : Val) (l : List Val) : (insertVal x l).Perm (x :: l) :=
  ListAux.insert_perm insertVal (·.lt · = true) (fun _ => rfl) (fun _ _ _ => rfl) x l

theorem sortVals_perm (l : List Val) : (sortVals l).Perm l :=
  ListAux.foldr_perm_of_insert_perm insertVal_perm l

theorem insertVal_sorted {x : Val} {l : List Val} (hx : ∀ y ∈ l, x.coarse = y.coarse ∧ x.eqv y = false)
    (hs : l.Pairwise (fun a b => a.lt b = true)) : (insertVal x l).Pairwise (fun a b => a.lt b = true) :=
  ListAux.insert_sorted insertVal (·.lt · = true) (fun _ => rfl) (fun _ _ _ => rfl) (·.lt · = true)
    (fun _ _ _ => lt_trans) (fun _ _ hyx => hyx)
    (fun y hy hyx => by
      obtain ⟨hc, hne⟩ := hx y hy
      simpa [Val.le, hne] using (not_lt_iff_le hc.symm).mp (by simpa using hyx)) hs

theorem sortVals_sorted : ∀ l : List Val, SameCoarse l → l.Pairwise (fun a b => a.eqv b = false) →
    (sortVals l).Pairwise (fun a b => a.lt b = true)
  | [], _, _ => by simp [sortVals]
  | x :: xs, hc, hp => by
    rw [List.pairwise_cons] at hp
    refine insertVal_sorted (fun y hy => ?_) (sortVals_sorted xs (hc.sublist (List.sublist_cons_self x xs)) hp.2)
    have hy' : y ∈ xs := (sortVals_perm xs).mem_iff.mp hy
    exact ⟨hc x List.mem_cons_self y (List.mem_cons_of_mem _ hy'), hp.1 y hy'⟩

end TddaVerif.Constraints.Order
