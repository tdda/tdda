/- C01 (closure): every constraint that discovery lists is met by the column in the documented sense
   (`discovered_sat`), and the verifier decides that sense (C02).  In a frame a column is found by its name. -/
import TddaVerif.Lemmas.Verify
import TddaVerif.Lemmas.Discover
import TddaVerif.Lemmas.ListAux

namespace TddaVerif.Props.C01
open TddaVerif.Constraints TddaVerif.Props.C02

/- The property statements use the two primed definitions under their unprimed names (abbreviations in Props/C01.lean,
   where `RexSound` is explained). -/

def RexSound' (cfg : Cfg) (rexOf : List Val → List Nat) (c : Column) : Prop :=
  ∀ x, Val.s x ∈ c.nonNull → ∃ r ∈ rexOf (calcUniques c), cfg.rx r x = true

def discoverFrame' (incRex : Bool) (rexOf : List Val → List Nat) (frame : List Column) :
    List (List Char × List Constraint) :=
  frame.filterMap (fun c => match discoverField incRex rexOf c c.cells.length with
                             | .ok (some ks) => some (c.name, ks)
                             | _ => none)

end TddaVerif.Props.C01

namespace TddaVerif.Props.C01.Lemmas
open TddaVerif.Constraints TddaVerif.Props.C02 TddaVerif.Props.C01
open TddaVerif.Constraints.DiscAux TddaVerif.Constraints.Order

theorem discoveredSign_holds {c : Column} (hs : SameCoarse c.nonNull) {s : Sign} (h : discoveredSign c = some s) :
    ∀ v ∈ c.nonNull, ∃ q, v.num = some q ∧ SignHolds s q := by
  obtain ⟨a, ha, b, hb, x, hx, y, hy, hxy⟩ := discoveredSign_eq_some.mp h
  obtain ⟨y', hy', hle, _⟩ := num_between hs ha hb hx
  cases hy.symm.trans hy'
  have hsp := C07.Lemmas.signOf_spec hle
  rw [hxy] at hsp
  exact (all_signHolds_iff hs ha hb hx hy s).mpr hsp.1

theorem discovered_sat {cfg : Cfg} {incRex : Bool} {rexOf : List Val → List Nat} {c : Column}
    (hwf : c.WF = true) (hrex : RexSound' cfg rexOf c) : ∀ k ∈ discovered incRex rexOf c, Sat cfg c k := by
  have hs := wf_sameCoarse hwf
  intro k hk
  cases k with
  | type ts =>
    cases mem_type.mp hk
    exact .inl List.mem_cons_self
  | min v p =>
    obtain ⟨_, m, hm, rfl, rfl⟩ := mem_min.mp hk
    intro v hv
    have hle := (minOf_least hs hm).2 v hv
    -- a fuzzy bound admits whatever is at or beyond it
    exact ⟨(le_coarse hle).symm, by simp [hle]⟩
  | max v p =>
    obtain ⟨_, m, hm, rfl, rfl⟩ := mem_max.mp hk
    intro v hv
    have hle := (maxOf_greatest hs hm).2 v hv
    exact ⟨le_coarse hle, by simp [hle]⟩
  | minLength v =>
    obtain ⟨hstr, m, hm, rfl⟩ := mem_minLength.mp hk
    exact ⟨hstr, fun v hv x hx =>
      Int.ofNat_le.mpr ((listMin_least hm).2 _ ((C07.Lemmas.mem_lensOf_uniques hwf).mpr ⟨x, hx ▸ hv, rfl⟩))⟩
  | maxLength v =>
    obtain ⟨hstr, m, hm, rfl⟩ := mem_maxLength.mp hk
    exact ⟨hstr, fun v hv x hx =>
      Int.ofNat_le.mpr ((listMax_greatest hm).2 _ ((C07.Lemmas.mem_lensOf_uniques hwf).mpr ⟨x, hx ▸ hv, rfl⟩))⟩
  | sign v =>
    obtain ⟨_, s, hsv, rfl⟩ := mem_sign.mp hk
    exact discoveredSign_holds hs hsv
  | maxNulls v =>
    obtain ⟨rfl, _⟩ := mem_maxNulls.mp hk
    exact Int.le_refl _
  | noDuplicates v =>
    obtain ⟨rfl, _, _, hp⟩ := mem_noDup.mp hk
    exact dedup_length_eq_iff.mp hp
  | allowedValues v =>
    obtain ⟨_, rfl, _⟩ := mem_allowed.mp hk
    exact fun x hx => ⟨x, ((C07.Lemmas.uniques_exact c hwf).1 x).mpr hx, eqv_refl x⟩
  | rex v =>
    obtain ⟨hstr, _, rfl⟩ := mem_rex.mp hk
    refine ⟨hstr, fun v hv => ?_⟩
    obtain ⟨x, rfl⟩ := str_of_wf hwf hstr hv
    exact ⟨x, rfl, hrex x hv⟩

theorem closure (cfg : Cfg) (heps : 0 ≤ cfg.epsilon) (incRex : Bool) (rexOf : List Val → List Nat)
    (c : Column) (hwf : c.WF = true) (hrex : RexSound' cfg rexOf c) (ks : List Constraint)
    (h : discoverField incRex rexOf c c.cells.length = .ok (some ks)) (detect : Bool) :
    ∀ k ∈ ks, verifyOn cfg c detect k = true := fun k hk =>
  (C02.Lemmas.verify_eq_spec cfg heps c hwf detect k).mpr
    (discovered_sat hwf hrex k (discover_ok_subset h hk))

theorem discover_total (incRex : Bool) (rexOf : List Val → List Nat) (c : Column) (hwf : c.WF = true) :
    ∃ ks, discoverField incRex rexOf c c.cells.length = .ok (some ks) :=
  C07.Lemmas.discover_total incRex rexOf c hwf

theorem findCol_of_mem {frame : List Column} (hnd : (frame.map (·.name)).Nodup) {c : Column}
    (hc : c ∈ frame) : findCol frame c.name = some c :=
  (ListAux.mem_iff_find?_of_nodup hnd).mp hc

theorem mem_discoverFrame' {incRex : Bool} {rexOf : List Val → List Nat} {frame : List Column}
    {n : List Char} {ks : List Constraint} : (n, ks) ∈ discoverFrame' incRex rexOf frame ↔
    ∃ c ∈ frame, c.name = n ∧ discoverField incRex rexOf c c.cells.length = .ok (some ks) := by
  refine List.mem_filterMap.trans (exists_congr fun c => and_congr_right fun _ => ?_)
  split
  · rename_i h; simp [h]
  · rename_i h; simpa using fun _ => h ks

theorem count_all_true {l : List Bool} (h : ∀ b ∈ l, b = true) : countTrue l = l.length ∧ countFalse l = 0 := by
  rw [countTrue, countFalse, (List.filter_eq_self (p := id)).mpr h,
    List.filter_eq_nil_iff.mpr fun b hb => by simp [h b hb]]
  exact ⟨rfl, rfl⟩

theorem verifyAll_all_pass {cfg : Cfg} {frame : List Column} {detect : Bool}
    {cs : List (List Char × List Constraint)}
    (hall : ∀ fc ∈ cs, ∀ k ∈ fc.2, verifyOne cfg frame fc.1 detect k = true) :
    (verifyAll cfg frame detect cs).failures = 0 ∧
    (verifyAll cfg frame detect cs).passes = ((cs.map (·.2.length)).sum) := by
  have hc := fun fc hfc => count_all_true (List.forall_mem_map.mpr (hall fc hfc))
  simp only [verifyAll, List.map_map]
  constructor
  · exact List.sum_eq_zero_iff_forall_eq_nat.mpr (List.forall_mem_map.mpr fun fc hfc => (hc fc hfc).2)
  · exact congrArg _ (List.map_congr_left fun fc hfc => (hc fc hfc).1.trans (List.length_map _))

theorem closure_frame (cfg : Cfg) (heps : 0 ≤ cfg.epsilon) (incRex : Bool) (rexOf : List Val → List Nat)
    (frame : List Column) (hwf : ∀ c ∈ frame, c.WF = true) (hnames : (frame.map (·.name)).Nodup)
    (hrex : ∀ c ∈ frame, RexSound' cfg rexOf c) (detect : Bool) :
    let cs := discoverFrame' incRex rexOf frame
    (verifyAll cfg frame detect cs).failures = 0 ∧
    (verifyAll cfg frame detect cs).passes = ((cs.map (·.2.length)).sum) ∧
    ∀ c ∈ frame, ∀ ks, (c.name, ks) ∈ cs → ks.filter (fun k => !verifyOn cfg c true k) = [] := by
  intro cs
  have hall : ∀ fc ∈ cs, ∀ k ∈ fc.2, verifyOne cfg frame fc.1 detect k = true := by
    intro fc hfc k hk
    obtain ⟨c, hc, hname, hd⟩ := mem_discoverFrame'.mp hfc
    rw [verifyOne, ← hname, findCol_of_mem hnames hc]
    exact closure cfg heps incRex rexOf c (hwf c hc) (hrex c hc) fc.2 hd detect k hk
  obtain ⟨h1, h2⟩ := verifyAll_all_pass hall
  refine ⟨h1, h2, fun c hc ks hks => ?_⟩
  -- the list found under the name of `c` was found from `c`
  obtain ⟨c', hc', hname, hd⟩ := mem_discoverFrame'.mp hks
  cases ListAux.eq_of_key_eq_of_nodup hnames hc' hc hname
  rw [List.filter_eq_nil_iff]
  intro k hk
  simp [closure cfg heps incRex rexOf c (hwf c hc) (hrex c hc) ks hd true k hk]

end TddaVerif.Props.C01.Lemmas
