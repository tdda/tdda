/-
C17, the command line: a line written the documented way is scanned item by item into what it means (`scan_pos`,
`scan_item`); what an outcome of the scan says about any line (`scan_unknown`, `scan_help`); the keyword lists of the
accepted invocations, in a form in which a lookup is read off (`kw`); the ties to the regenerated tables.
-/
import TddaVerif.Model.Flags
import TddaVerif.Generated.Flags
import TddaVerif.Props.C17Spec
import TddaVerif.Lemmas.ListAux

namespace TddaVerif.Props.C17.Lemmas
open TddaVerif.Flags TddaVerif.Props.C17

theorem findOpt_mem {opts : List Opt} {t : Tok} {o : Opt} (h : findOpt opts t = some o) :
    o ∈ opts ∧ t ∈ o.spellings :=
  ⟨List.mem_of_find?_eq_some h, by simpa using List.find?_some h⟩

theorem spelling_optlike {opts : List Opt} (hT : TableWF opts) {t : Tok} {o : Opt}
    (h : findOpt opts t = some o) : looksLikeOption t = true :=
  hT o (findOpt_mem h).1 t (findOpt_mem h).2

theorem renderAll_cons (i : Item) (is : List Item) : renderAll (i :: is) = i.render ++ renderAll is := by
  simp [renderAll]

theorem length_le_renderAll (is : List Item) : is.length ≤ (renderAll is).length := by
  induction is with
  | nil => simp [renderAll]
  | cons i is ih =>
    rw [renderAll_cons]
    cases i <;> simp [Item.render] <;> omega

theorem render_shape {opts : List Opt} {i : Item} (hi : i.WF opts) :
    ∃ s tl o, i.render = s :: tl ∧ findOpt opts s = some o ∧ o.kind ≠ 3 ∧ ∀ x ∈ tl, looksLikeOption x = false := by
  cases i with
  | flag s => obtain ⟨o, ho, hk⟩ := hi; exact ⟨s, [], o, rfl, ho, by omega, by simp⟩
  | value s v => obtain ⟨o, ho, hk, hv, _⟩ := hi; exact ⟨s, [v], o, rfl, ho, by omega, by simpa using hv⟩
  | list s items => obtain ⟨o, ho, hk, hitems⟩ := hi; exact ⟨s, items, o, rfl, ho, by omega, hitems⟩

theorem meaning_set_positionals (opts : List Opt) (is : List Item) (p : Parsed) (ps : List Tok) :
    { meaning opts is p with positionals := ps } = meaning opts is { p with positionals := ps } := by
  induction is generalizing p with
  | nil => rfl
  | cons i is ih => cases i <;> simp [meaning, ih]

theorem meaning_positionals (opts : List Opt) (is : List Item) (p : Parsed) :
    (meaning opts is p).positionals = p.positionals :=
  (congrArg Parsed.positionals (meaning_set_positionals opts is p p.positionals)).symm

theorem meaning_unknown (opts : List Opt) (is : List Item) (p : Parsed) :
    (meaning opts is p).unknown = p.unknown := by
  induction is generalizing p with
  | nil => rfl
  | cons i is ih => cases i <;> simp [meaning, ih]

theorem meaning_cons (opts : List Opt) (i : Item) (is : List Item) (p : Parsed) :
    meaning opts (i :: is) p = meaning opts is (meaning opts [i] p) := by
  cases i <;> rfl

theorem scan_pos {opts : List Opt} {ps : List Tok} (h : ∀ t ∈ ps, looksLikeOption t = false)
    (tail : List Tok) (f : Nat) (p : Parsed) :
    scan opts (ps.length + f) (ps ++ tail) p = scan opts f tail { p with positionals := p.positionals ++ ps } := by
  induction ps generalizing p with
  | nil => simp
  | cons t ps ih =>
    rw [List.length_cons, Nat.add_right_comm, List.cons_append, scan, if_neg (by simp [h t List.mem_cons_self]),
      ih (fun y hy => h y (List.mem_cons_of_mem _ hy))]
    simp

theorem scan_item {opts : List Opt} (hT : TableWF opts) {i : Item} (hi : i.WF opts) (rest : List Tok)
    (hnext : isList i = true → ∀ t ∈ rest.head?, looksLikeOption t = true) (f : Nat) (p : Parsed) :
    scan opts (f + 1) (i.render ++ rest) p = scan opts f rest (meaning opts [i] p) := by
  cases i with
  | flag s =>
    obtain ⟨o, ho, hk⟩ := hi
    simp [Item.render, scan, spelling_optlike hT ho, ho, hk, meaning, destOf]
  | value s v =>
    obtain ⟨o, ho, hk, hv, hch, hty⟩ := hi
    have hc : (!o.choices.isEmpty && !o.choices.contains v) = false := by
      rcases hch with h | h <;> simp [h]
    have hf : (o.type == "float".toList && !isFloatTok v) = false := by
      by_cases h : o.type = "float".toList
      · rw [hty h]; simp
      · rw [beq_false_of_ne h]; rfl
    simp only [Item.render, List.cons_append, List.nil_append, scan, spelling_optlike hT ho, ho, hk, hv, hc, hf]
    simp [meaning, destOf, ho]
  | list s items =>
    obtain ⟨o, ho, hk, hitems⟩ := hi
    obtain ⟨e1, e2⟩ := ListAux.span_append (p := fun x => !looksLikeOption x) (l := items) (r := rest)
      (by simpa using hitems) (by simpa using hnext rfl)
    simp only [Item.render, List.cons_append, scan, spelling_optlike hT ho, ho, hk, e1, e2]
    simp [meaning, destOf, ho]

theorem scan_items {opts : List Opt} (hT : TableWF opts) {is : List Item} (his : ∀ i ∈ is, i.WF opts) (tail : List Tok)
    (hlast : ∀ i, is.getLast? = some i → isList i = true → ∀ t ∈ tail.head?, looksLikeOption t = true)
    (f : Nat) (p : Parsed) :
    scan opts (is.length + f) (renderAll is ++ tail) p = scan opts f tail (meaning opts is p) := by
  induction is generalizing p with
  | nil => simp [renderAll, meaning]
  | cons i is ih =>
    have his' : ∀ j ∈ is, j.WF opts := fun j hj => his j (List.mem_cons_of_mem _ hj)
    rw [renderAll_cons, List.append_assoc, List.length_cons, Nat.add_right_comm,
      scan_item hT (his i List.mem_cons_self), meaning_cons opts i is]
    · exact ih his' (fun j hj => hlast j (by rw [List.getLast?_cons, hj]; rfl)) _
    · -- what follows a list is the spelling of the next item or, after the last item, the head of `tail`
      intro hl
      cases is with
      | nil => exact hlast i rfl hl
      | cons j js =>
        obtain ⟨s, tl, o, e, ho, -⟩ := render_shape (his' j List.mem_cons_self)
        simp [renderAll_cons, e, spelling_optlike hT ho]

theorem scan_nil (opts : List Opt) (f : Nat) (p : Parsed) : scan opts (f + 1) [] p = .ok p := rfl

theorem scan_unknown {opts : List Opt} {fuel : Nat} {argv : List Tok} {p q : Parsed}
    (h : scan opts fuel argv p = .ok q) :
    q.unknown = p.unknown ++ argv.filter (fun t => looksLikeOption t && (findOpt opts t).isNone) := by
  -- no option-like token is passed over: as a value it is a usage error, among the items of a list it ends the list
  fun_induction scan opts fuel argv p <;> simp_all
  -- left: a list option; the items it takes are not option-like, so the filter keeps none of them
  exact ListAux.filter_dropWhile (by simp +contextual) _

theorem scan_positionals_le {opts : List Opt} {fuel : Nat} {argv : List Tok} {p q : Parsed}
    (h : scan opts fuel argv p = .ok q) : p.positionals.length ≤ q.positionals.length := by
  fun_induction scan opts fuel argv p <;> simp_all <;> omega

theorem scan_help {opts : List Opt} {fuel : Nat} {argv : List Tok} {p : Parsed}
    (h : scan opts fuel argv p = .help) :
    ∃ t ∈ argv, looksLikeOption t = true ∧ ∃ o, findOpt opts t = some o ∧ o.kind = 3 := by
  fun_induction scan opts fuel argv p <;> simp_all
  -- left: a list option; the token found behind its items is a token of the command line
  obtain ⟨t, ht, h⟩ := ‹∃ t, _›
  exact ⟨t, (List.dropWhile_sublist _).subset ht, h⟩

theorem renderAll_no_help {opts : List Opt} {is : List Item} (his : ∀ i ∈ is, i.WF opts) {t : Tok}
    (ht : t ∈ renderAll is) (hl : looksLikeOption t = true) {o : Opt} (ho : findOpt opts t = some o) : o.kind ≠ 3 := by
  obtain ⟨_, hr, ht⟩ := List.mem_flatten.1 ht
  obtain ⟨i, hi, rfl⟩ := List.mem_map.1 hr
  obtain ⟨s, tl, o', e, ho', hk, htl⟩ := render_shape (his i hi)
  -- `t` is the spelling of `i`, since what follows it is not option-like
  obtain rfl | ht : t = s ∨ t ∈ tl := by simpa [e] using ht
  · cases ho.symm.trans ho'; exact hk
  · simp [htl t ht] at hl

theorem arityOk_mono {r m m' : Nat} {p : Parsed} (hm : m ≤ m') (h : arityOk r m p = true) :
    arityOk r m' p = true := by
  simp only [arityOk, Bool.and_eq_true, decide_eq_true_eq] at h ⊢
  exact ⟨⟨h.1.1, Nat.le_trans h.1.2 hm⟩, h.2⟩

theorem paramsOf_reject {cmd : Cmd} {p : Parsed} (h : arityOk 1 3 p = false) : paramsOf cmd p = .reject := by
  have h2 : arityOk 1 2 p = false :=
    Bool.eq_false_iff.2 fun h' => Bool.eq_false_iff.1 h (arityOk_mono (by decide) h')
  cases cmd
  · exact if_pos (by simp [h2])
  · exact if_pos (by simp [h2])
  · exact if_pos (by simp [h])

theorem scan_positionals_then_options (opts : List Opt) (ps : List Tok) (is : List Item) (fuel : Nat)
    (hT : TableWF opts)
    (hps : ∀ p ∈ ps, looksLikeOption p = false) (his : ∀ i ∈ is, i.WF opts)
    (hfuel : (ps ++ renderAll is).length < fuel) :
    scan opts fuel (ps ++ renderAll is) {} = .ok (meaning opts is { positionals := ps }) := by
  have hl := length_le_renderAll is
  obtain ⟨f, rfl⟩ : ∃ f, fuel = ps.length + (is.length + (f + 1)) :=
    ⟨fuel - ps.length - is.length - 1, by simp at hfuel; omega⟩
  rw [← List.append_nil (renderAll is), scan_pos hps, scan_items hT his [] (by simp), scan_nil]
  rfl

theorem scan_options_then_positionals (opts : List Opt) (ps : List Tok) (is : List Item) (fuel : Nat)
    (hT : TableWF opts)
    (hps : ∀ p ∈ ps, looksLikeOption p = false) (his : ∀ i ∈ is, i.WF opts)
    (hlast : ∀ i, is.getLast? = some i → isList i = false)
    (hfuel : (renderAll is ++ ps).length < fuel) :
    scan opts fuel (renderAll is ++ ps) {} = .ok { meaning opts is {} with positionals := ps } := by
  have hl := length_le_renderAll is
  obtain ⟨f, rfl⟩ : ∃ f, fuel = is.length + (ps.length + (f + 1)) :=
    ⟨fuel - ps.length - is.length - 1, by simp at hfuel; omega⟩
  have := scan_pos (opts := opts) hps [] (f + 1) (meaning opts is {})
  rw [List.append_nil] at this
  rw [scan_items hT his ps fun i hi hli => by simp [hlast i hi] at hli, this, scan_nil, meaning_positionals]
  simp

theorem unknown_never_runs (cmd : Cmd) (opts : List Opt) {argv : List Tok} {u : Tok} (hmem : u ∈ argv)
    (hu : looksLikeOption u = true) (hunk : findOpt opts u = none) :
    ∀ params, run cmd opts argv ≠ .run params := by
  intro params
  unfold run
  split
  · simp
  · simp
  · next q hq =>
    have hq : u ∈ q.unknown := by simp [scan_unknown hq, hmem, hu, hunk]
    have : paramsOf cmd q = .reject := paramsOf_reject (by simp [arityOk, List.ne_nil_of_mem hq])
    simp [this]

theorem unknown_option_never_runs (cmd : Cmd) (opts : List Opt) (ps : List Tok) (is : List Item) (u : Tok) (rest : List Tok)
    (_hps : ∀ p ∈ ps, looksLikeOption p = false) (_his : ∀ i ∈ is, i.WF opts)
    (hu : looksLikeOption u = true) (hunk : findOpt opts u = none) :
    ∀ params, run cmd opts (ps ++ renderAll is ++ u :: rest) ≠ .run params :=
  unknown_never_runs cmd opts (by simp) hu hunk

theorem no_input_rejected (cmd : Cmd) (opts : List Opt) (is : List Item) (hT : TableWF opts)
    (his : ∀ i ∈ is, i.WF opts) :
    run cmd opts (renderAll is) = .reject := by
  unfold run
  have := scan_positionals_then_options opts [] is ((renderAll is).length + 1) hT (by simp) his (by simp)
  rw [List.nil_append] at this
  rw [this]
  exact paramsOf_reject (by simp [arityOk, meaning_positionals])

theorem too_many_positionals_rejected (cmd : Cmd) (opts : List Opt) (ps : List Tok) (is : List Item)
    (hps : ∀ p ∈ ps, looksLikeOption p = false) (his : ∀ i ∈ is, i.WF opts) (hn : 3 < ps.length) :
    run cmd opts (ps ++ renderAll is) = .reject := by
  unfold run
  have e : (ps ++ renderAll is).length + 1 = ps.length + ((renderAll is).length + 1) := by simp; omega
  rw [e, scan_pos hps]
  -- the scan of the options is not computed (no `TableWF`): `scan_help` and `scan_positionals_le` hold of any outcome
  split
  · next h =>
    obtain ⟨t, ht, hl, o, ho, hk⟩ := scan_help h
    exact absurd hk (renderAll_no_help his ht hl ho)
  · rfl
  · next q hq =>
    have := scan_positionals_le hq
    exact paramsOf_reject (by simp [arityOk] at this ⊢; omega)

theorem rex_norex_rejected (p : Parsed) (h1 : p.flag "rex" = true) (h2 : p.flag "norex" = true) :
    discoverParams p = .reject := by
  simp [discoverParams, h1, h2]

theorem all_fields_rejected (p : Parsed) (h1 : p.flag "all" = true) (h2 : p.flag "fields" = true) :
    verifyParams p = .reject ∧ detectParams p = .reject := by
  simp [verifyParams, detectParams, h1, h2]

theorem per_constraint_contradiction_rejected (p : Parsed) (h1 : p.flag "per_constraint" = true)
    (h2 : p.flag "no_per_constraint" = true) : detectParams p = .reject := by
  simp [detectParams, h1, h2]

theorem output_fields_contradiction_rejected (p : Parsed) (l : List Tok) (h1 : p.list "output_fields" = some l)
    (h2 : p.flag "no_output_fields" = true) : detectParams p = .reject := by
  simp [detectParams, h1, h2]

/-- the keyword `k`, passed when there is a value for it: what every optional block of `verifyParams` / `detectParams` is -/
def kw (k : String) (v : Option PVal) : Params := (v.map (Prod.mk k)).toList

theorem ite_kw (b : Bool) (k : String) (v : PVal) :
    (if b then [(k, v)] else []) = kw k (if b then some v else none) := by
  cases b <;> rfl

theorem lookup_kw (k k' : String) (v : Option PVal) :
    List.lookup k (kw k' v) = if k = k' then v else none := by
  cases v with
  | none => exact (ite_self _).symm
  | some v => exact ListAux.lookup_cons_eq k k' v []

/- used as a term on `h : xxxParams p = .run ps`: `split at h` on the unfolded definition costs a hundred times more -/
theorem run_of_guard {c : Prop} [Decidable c] {r : Result} {ps : Params}
    (h : (if c then .reject else r) = .run ps) : ¬ c ∧ r = .run ps := by
  split at h
  · cases h
  · exact ⟨‹_›, h⟩

theorem discover_params_exact (p : Parsed) (ps : Params) (h : discoverParams p = .run ps) :
    ps = [("inc_rex", .b (p.flag "rex")), ("df_path", optS p.positionals[0]?), ("constraints_path", optS p.positionals[1]?)]
    ∧ 1 ≤ p.positionals.length ∧ p.positionals.length ≤ 2 ∧ p.unknown = [] ∧ ¬ (p.flag "rex" = true ∧ p.flag "norex" = true) := by
  obtain ⟨ha, h⟩ := run_of_guard h
  obtain ⟨hr, h⟩ := run_of_guard h
  simp [arityOk] at ha
  exact ⟨(Result.run.inj h).symm, List.length_pos_iff.2 ha.1.1, ha.1.2, ha.2, by simpa using hr⟩

theorem verifyParams_run {p : Parsed} {ps : Params} (h : verifyParams p = .run ps) :
    ps = [("report", .s (if p.flag "all" then "all".toList else if p.flag "fields" then "fields".toList else "all".toList)),
          ("ascii", .b (p.flag "ascii"))] ++
      kw "type_checking" ((p.value "type_checking").map .s) ++
      kw "epsilon" ((p.value "epsilon").map .f) ++
      [("df_path", optS p.positionals[0]?), ("constraints_path", optS p.positionals[1]?)] := by
  rw [← Result.run.inj (run_of_guard (run_of_guard h).2).2]
  cases p.value "type_checking" <;> cases p.value "epsilon" <;> rfl

theorem verify_params_exact (p : Parsed) (ps : Params) (h : verifyParams p = .run ps) :
    ps.lookup "report" = some (.s (if p.flag "fields" && !p.flag "all" then "fields".toList else "all".toList)) ∧
    ps.lookup "ascii" = some (.b (p.flag "ascii")) ∧
    ps.lookup "type_checking" = (p.value "type_checking").map PVal.s ∧
    ps.lookup "epsilon" = (p.value "epsilon").map PVal.f ∧
    ps.lookup "df_path" = some (optS p.positionals[0]?) ∧
    ps.lookup "constraints_path" = some (optS p.positionals[1]?) := by
  rw [verifyParams_run h]
  simp only [List.lookup_append, lookup_kw, ListAux.lookup_cons_eq, List.lookup_nil, String.reduceEq, ↓reduceIte,
    Option.or_none, Option.none_or, and_true]
  -- on variables: with the literals in place `rfl` tries to tell "all" from "fields" by evaluation first
  have (a f : Bool) (x y : Tok) : (if a then x else if f then y else x) = if f && !a then y else x := by
    cases a <;> cases f <;> rfl
  rw [this]

/-- `output_fields` is written with `Option.or`, not with a `match` on `p.list "output_fields"`: the statement of
    `detect_params_exact` below holds such a `match`, and Lean would give it the matcher of this one -/
theorem detectParams_run {p : Parsed} {ps : Params} (h : detectParams p = .run ps) :
    ps = [("report", .s "records".toList), ("ascii", .b (p.flag "ascii"))] ++
      kw "type_checking" ((p.value "type_checking").map .s) ++
      kw "epsilon" ((p.value "epsilon").map .f) ++
      kw "write_all" (if p.flag "write_all" then some (.b true) else none) ++
      kw "per_constraint" (if !p.flag "no_per_constraint" then some (.b true) else none) ++
      kw "index" (if p.flag "index" then some (.b true) else none) ++
      kw "boolean_ints" (if p.flag "boolean_ints" then some (.b true) else none) ++
      kw "output_fields" (((p.list "output_fields").map .l).or
        (if p.flag "no_output_fields" then none else some (.l []))) ++
      kw "interleave" (if p.flag "interleave" then some (.b true) else none) ++
      [("in_place", .b false), ("df_path", optS p.positionals[0]?),
       ("constraints_path", optS p.positionals[1]?), ("outpath", optS p.positionals[2]?)] := by
  rw [← Result.run.inj (run_of_guard (run_of_guard (run_of_guard (run_of_guard h).2).2).2).2]
  simp only [← ite_kw]
  -- the two lists agree block by block; three blocks of the model are a `match`
  congr
  · cases p.value "type_checking" <;> rfl
  · cases p.value "epsilon" <;> rfl
  · cases p.list "output_fields" <;> cases p.flag "no_output_fields" <;> rfl

theorem detect_params_exact (p : Parsed) (ps : Params) (h : detectParams p = .run ps) :
    ps.lookup "report" = some (.s "records".toList) ∧
    ps.lookup "ascii" = some (.b (p.flag "ascii")) ∧
    ps.lookup "type_checking" = (p.value "type_checking").map PVal.s ∧
    ps.lookup "epsilon" = (p.value "epsilon").map PVal.f ∧
    ps.lookup "write_all" = (if p.flag "write_all" then some (.b true) else none) ∧
    ps.lookup "per_constraint" = (if p.flag "no_per_constraint" then none else some (.b true)) ∧
    ps.lookup "index" = (if p.flag "index" then some (.b true) else none) ∧
    ps.lookup "boolean_ints" = (if p.flag "boolean_ints" then some (.b true) else none) ∧
    ps.lookup "interleave" = (if p.flag "interleave" then some (.b true) else none) ∧
    ps.lookup "output_fields" = (match p.list "output_fields" with
                                 | some l => some (.l l)
                                 | none => if p.flag "no_output_fields" then none else some (.l [])) ∧
    ps.lookup "in_place" = some (.b false) ∧
    ps.lookup "df_path" = some (optS p.positionals[0]?) ∧
    ps.lookup "constraints_path" = some (optS p.positionals[1]?) ∧
    ps.lookup "outpath" = some (optS p.positionals[2]?) := by
  rw [detectParams_run h]
  simp only [List.lookup_append, lookup_kw, ListAux.lookup_cons_eq, List.lookup_nil, String.reduceEq, ↓reduceIte,
    Option.or_none, Option.none_or, true_and, and_true]
  constructor
  · cases p.flag "no_per_constraint" <;> rfl
  · cases p.list "output_fields" <;> rfl

def tableOf (rows : List Generated.Flags.OptRow) : List Opt := rows.map Opt.ofRow

theorem tie_tables_wf :
    TableWF (tableOf Generated.Flags.discoverOpts) ∧ TableWF (tableOf Generated.Flags.verifyOpts) ∧
    TableWF (tableOf Generated.Flags.detectOpts) := by
  unfold TableWF; decide

theorem tie_dests :
    (∀ d ∈ ["rex", "norex"], ∃ o ∈ tableOf Generated.Flags.discoverOpts, o.dest = d.toList ∧ o.kind = 0) ∧
    (∀ d ∈ ["all", "fields", "ascii"], ∃ o ∈ tableOf Generated.Flags.verifyOpts, o.dest = d.toList ∧ o.kind = 0) ∧
    (∀ d ∈ ["type_checking", "epsilon"], ∃ o ∈ tableOf Generated.Flags.verifyOpts, o.dest = d.toList ∧ o.kind = 1) ∧
    (∀ d ∈ ["all", "fields", "ascii", "write_all", "per_constraint", "no_per_constraint", "no_output_fields", "interleave",
            "index", "boolean_ints"], ∃ o ∈ tableOf Generated.Flags.detectOpts, o.dest = d.toList ∧ o.kind = 0) ∧
    (∀ d ∈ ["type_checking", "epsilon"], ∃ o ∈ tableOf Generated.Flags.detectOpts, o.dest = d.toList ∧ o.kind = 1) ∧
    (∃ o ∈ tableOf Generated.Flags.detectOpts, o.dest = "output_fields".toList ∧ o.kind = 2) := by
  decide +kernel

theorem tie_documented_spelling :
    (findOpt (tableOf Generated.Flags.detectOpts) "--no-original-fields".toList).map (·.dest) = some "no_output_fields".toList := by
  decide +kernel

theorem tie_positionals :
    Generated.Flags.discoverPositionals.map (·.2.1) = [true, false] ∧
    Generated.Flags.verifyPositionals.map (·.2.1) = [true, false] ∧
    Generated.Flags.detectPositionals.map (·.2.1) = [true, false, false] := by
  decide

end TddaVerif.Props.C17.Lemmas
