/-
C17, which invocations the pandas front-end takes: `applicable` is a disjunction over the arguments (`applicable_iff`), so
neither the order of the arguments nor what else stands among them matters; test vectors for the model's `splitext`.
-/
import TddaVerif.Model.Applicable
import TddaVerif.Generated.Flags
import TddaVerif.Lemmas.ListAux
namespace TddaVerif.Props.C17.AppLemmas
open TddaVerif.Py TddaVerif.Applicable

theorem applicable_iff (exts : List Line) (argv : List Line) :
    applicable exts argv = true ↔ ∃ a ∈ argv, a = ['-'] ∨ splitextExt a ∈ exts := by
  simp [applicable]

theorem applicable_perm (exts : List Line) (argv argv' : List Line) (h : argv.Perm argv') :
    applicable exts argv = applicable exts argv' :=
  h.any_eq

theorem applicable_append (exts : List Line) (xs ys : List Line) :
    applicable exts (xs ++ ys) = (applicable exts xs || applicable exts ys) := by
  simp [applicable, List.any_append]

theorem applicable_of_mem (exts : List Line) (argv : List Line) (a : Line) (ha : a ∈ argv)
    (h : a = ['-'] ∨ exts.contains (splitextExt a) = true) : applicable exts argv = true :=
  (applicable_iff exts argv).2 ⟨a, ha, by simpa using h⟩

theorem not_applicable_iff (exts : List Line) (argv : List Line) :
    applicable exts argv = false ↔ ∀ a ∈ argv, a ≠ ['-'] ∧ exts.contains (splitextExt a) = false := by
  simp [← Bool.not_eq_true, applicable_iff]

/- what the model's splitext says on the kinds of name that matter (as os.path.splitext does) -/
example : splitextExt "data.csv".toList = ".csv".toList := by simp only [String.reduceToList]; decide
example : splitextExt "dir.v2/data".toList = [] := by simp only [String.reduceToList]; decide
example : splitextExt ".csv".toList = [] := by decide
example : splitextExt "a.b/.hidden".toList = [] := by simp only [String.reduceToList]; decide
example : splitextExt "archive.tar.json".toList = ".json".toList := by simp only [String.reduceToList]; decide
example : splitextExt "x.".toList = ".".toList := by decide
example : splitextExt "..yaml".toList = [] := by decide
example : splitextExt "x.tsv/".toList = [] := by decide
example : applicable TddaVerif.Generated.Flags.applicableExts ["-t".toList, "strict".toList, "data.csv".toList, "c.tdda".toList] = true := by
  simp only [String.reduceToList]; decide
example : applicable TddaVerif.Generated.Flags.applicableExts ["-t".toList, "strict".toList, "sqlite:t".toList] = false := by
  simp only [String.reduceToList]; decide

theorem tie_applicable_exts :
    TddaVerif.Generated.Flags.applicableExts =
      [".csv".toList, ".psv".toList, ".tsv".toList, ".parquet".toList, ".json".toList, ".yaml".toList] :=
  (ListAux.map_toList_ofList _).symm

end TddaVerif.Props.C17.AppLemmas
