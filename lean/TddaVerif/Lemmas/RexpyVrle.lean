/- The entries of a VRLE (`Ent`, `init0`, `init1`, `zeroed`; a count in the range of an entry, `InRange`; a range that is
   not empty, `NonemptyRange`).  A run-length encoding describes its string (`Runs`); `to_vrles` gives every encoding a
   VRLE (per class a range of counts) that covers it (`Cov`, `toVrles_covers`), one per signature (`sigOf`: the classes
   without the counts); `clean` as a function of what each item contributes (`cleanFold_eq`). -/
import TddaVerif.Model.Rexpy
import TddaVerif.Lemmas.ListAux

namespace TddaVerif.Props.C03.Lemmas

/-- on the product that `Ent` abbreviates, as the C14 statements mention it -/
def zeroed (x : Char × Nat × Option Nat) : Char × Nat × Option Nat := (x.1, 0, x.2.2)

end TddaVerif.Props.C03.Lemmas

-- in this namespace because statements of C14 (RexpyPerm) name them there
namespace TddaVerif.Props.C14.PermLemmas
open TddaVerif.Props.C03.Lemmas (zeroed)

/-- an entry of a VRLE: class, least and greatest count (`none` = unbounded); the model's `Vrle` is `List Ent` -/
abbrev Ent := Char × Nat × Option Nat

def init1 (x : Char × Nat) : Ent := (x.1, x.2, some x.2)
def init0 (x : Char × Nat) : Ent := (x.1, 0, some x.2)

theorem zeroed_zeroed (e : Ent) : zeroed (zeroed e) = zeroed e := rfl
theorem zeroed_init0 (x : Char × Nat) : zeroed (init0 x) = init0 x := rfl
theorem zeroed_init1 (x : Char × Nat) : zeroed (init1 x) = init0 x := rfl
theorem zeroed_fst (e : Ent) : (zeroed e).1 = e.1 := rfl
theorem zeroed_comp_zeroed : zeroed ∘ zeroed = zeroed := rfl
theorem zeroed_comp_init0 : zeroed ∘ init0 = init0 := rfl
theorem zeroed_comp_init1 : zeroed ∘ init1 = init0 := rfl

end TddaVerif.Props.C14.PermLemmas

namespace TddaVerif.Props.C03.Lemmas
open TddaVerif.Py TddaVerif.Rexpy
open TddaVerif.Props.C14.PermLemmas (Ent init0 init1)

def InRange (n : Nat) (v : Ent) : Prop :=
  v.2.1 ≤ n ∧ ∀ M, v.2.2 = some M → n ≤ M

def NonemptyRange (v : Ent) : Prop := ∀ M, v.2.2 = some M → v.2.1 ≤ M

def AllNonemptyRange (v : List Ent) : Prop := ∀ e ∈ v, NonemptyRange e

theorem nonemptyRange_zeroed (e : Ent) : NonemptyRange (zeroed e) := fun M _ => Nat.zero_le M

/-- the string splits into the non-empty runs that the encoding lists, classes read through `f` -/
def Runs (f : Char → Char) : List (Char × Nat) → Line → Prop
  | [], s => s = []
  | r :: rs, s => ∃ p q, s = p ++ q ∧ p.length = r.2 ∧ 0 < r.2 ∧ (∀ c ∈ p, f c = r.1) ∧ Runs f rs q

theorem runs_rleAux (f : Char → Char) (cs : Line) (last : Char) (n : Nat) (pre : Line)
    (hn : pre.length = n) (h0 : 0 < n) (hp : ∀ c ∈ pre, f c = last) :
    Runs f (rleAux (cs.map f) last n) (pre ++ cs) := by
  induction cs generalizing last n pre with
  | nil => exact ⟨pre, [], by simp, hn, h0, hp, rfl⟩
  | cons c cs ih =>
    simp only [List.map_cons, rleAux]
    split
    · have := ih last (n + 1) (pre ++ [c]) (by simp [hn]) (Nat.succ_pos n)
        (List.forall_mem_append.2 ⟨hp, List.forall_mem_singleton.2 (eq_of_beq ‹_›)⟩)
      simpa using this
    · exact ⟨pre, c :: cs, rfl, hn, h0, hp, by simpa using ih (f c) 1 [c] rfl Nat.one_pos (by simp)⟩

theorem runs_rle (f : Char → Char) (s : Line) : Runs f (rle (s.map f)) s := by
  cases s with
  | nil => rfl
  | cons c cs => simpa [rle] using runs_rleAux f cs (f c) 1 [c] rfl Nat.one_pos (by simp)

theorem runs_pos {f : Char → Char} : ∀ {r : List (Char × Nat)} {s : Line}, Runs f r s → ∀ x ∈ r, 0 < x.2
  | [], _, _, _, hx => nomatch hx
  | _ :: _, _, ⟨_, _, _, _, h0, _, hq⟩, x, hx => by
    rcases List.mem_cons.1 hx with rfl | hx
    · exact h0
    · exact runs_pos hq x hx

/-- the VRLE covers the encoding: same classes, counts in range; surplus entries of the VRLE allow zero occurrences -/
def Cov : List Ent → List (Char × Nat) → Prop
  | [], [] => True
  | [], _ :: _ => False
  | v :: vs, [] => InRange 0 v ∧ Cov vs []
  | v :: vs, r :: rs => r.1 = v.1 ∧ InRange r.2 v ∧ Cov vs rs

theorem cov_cons_mono {e e' : Ent} {es es' : List Ent} (h1 : e'.1 = e.1) (h2 : ∀ n, InRange n e → InRange n e')
    (h3 : ∀ r, Cov es r → Cov es' r) : ∀ r, Cov (e :: es) r → Cov (e' :: es') r
  | [], h => ⟨h2 0 h.1, h3 [] h.2⟩
  | _ :: xs, h => ⟨h.1.trans h1.symm, h2 _ h.2.1, h3 xs h.2.2⟩

theorem cov_map (g : Ent → Ent) (hg : ∀ e, (g e).1 = e.1 ∧ ∀ n, InRange n e → InRange n (g e)) :
    ∀ (v : List Ent) (r : List (Char × Nat)), Cov v r → Cov (v.map g) r
  | [], _, h => h
  | e :: es, r, h => cov_cons_mono (hg e).1 (hg e).2 (cov_map g hg es) r h

theorem cov_map_nil {α : Type} (g : α → Ent) (hg : ∀ x, (g x).2.1 = 0) : ∀ l : List α, Cov (l.map g) []
  | [] => trivial
  | x :: xs => ⟨⟨Nat.le_of_eq (hg x), fun _ _ => Nat.zero_le _⟩, cov_map_nil g hg xs⟩

theorem cov_map_self (g : Char × Nat → Ent) (hg : ∀ x, (g x).1 = x.1 ∧ InRange x.2 (g x)) :
    ∀ r : List (Char × Nat), Cov (r.map g) r
  | [] => trivial
  | x :: xs => ⟨(hg x).1.symm, (hg x).2, cov_map_self g hg xs⟩

theorem groupBySig_eq (rles : List (List (Char × Nat))) :
    groupBySig rles =
      (rles.map sigOf).eraseDups.map (fun sg => (sg, rles.filter (fun r => sigOf r == sg))) := by
  induction rles with
  | nil => rfl
  | cons r rs ih =>
    have hfind : ∀ (S : List (List Char)) (F : List Char → List (List (Char × Nat))) (k : List Char),
        ((S.map (fun sg => (sg, F sg))).find? (fun g => g.1 == k)) = if k ∈ S then some (k, F k) else none := by
      intro S F k
      induction S with
      | nil => rfl
      | cons a as ih =>
        by_cases h : a = k
        · subst h; simp
        · have : ¬ k = a := fun e => h e.symm
          simp [h, this, ih]
    rw [groupBySig, ih, hfind, List.map_cons, List.eraseDups_cons, List.map_cons, List.filter_map,
      ListAux.eraseDups_filter]
    congr 1
    · simp only [List.filter_cons, beq_self_eq_true, if_true, Prod.mk.injEq, true_and, List.cons.injEq]
      split
      · rfl
      · rename_i h
        simp only [Option.map_none, Option.getD_none]
        symm
        rw [List.filter_eq_nil_iff]
        intro r' hr' hs
        exact h (List.mem_eraseDups.2 (List.mem_map.2 ⟨r', hr', by simpa using hs⟩))
    · apply List.map_congr_left
      intro sg hsg
      have : ¬ sigOf r = sg := by
        have := (List.mem_filter.1 hsg).2
        intro e; simp [e] at this
      simp [this]

theorem listMinNat_eq : ∀ l, listMinNat l = l.min?.getD 0
  | [] | [_] => rfl
  | x :: y :: ys => by
    show min x (listMinNat (y :: ys)) = _
    rw [listMinNat_eq (y :: ys), List.min?_cons (xs := y :: ys)]
    cases h : (y :: ys).min? with
    | none => cases List.min?_eq_none_iff.1 h
    | some m => rfl

theorem listMaxNat_eq : ∀ l, listMaxNat l = l.max?.getD 0
  | [] => rfl
  | x :: xs => by rw [listMaxNat, listMaxNat_eq xs, List.max?_cons]; cases xs.max? <;> simp

theorem sigOf_vrleOfGroup (sg : List Char) (rs : List (List (Char × Nat))) :
    sigOf (vrleOfGroup sg rs) = sg := by
  unfold sigOf vrleOfGroup
  rw [List.map_map]
  refine Eq.trans (List.map_congr_left fun i _ => ?_) (ListAux.map_getD_range '?' sg)
  simp only [Function.comp]
  split <;> rfl

theorem cov_of_getElem {v : List Ent} {r : List (Char × Nat)} (hl : v.length = r.length)
    (h : ∀ i (h1 : i < v.length) (h2 : i < r.length), r[i].1 = v[i].1 ∧ InRange r[i].2 v[i]) : Cov v r := by
  induction v generalizing r with
  | nil => cases List.eq_nil_of_length_eq_zero hl.symm; trivial
  | cons e es ih =>
    cases r with
    | nil => cases hl
    | cons x xs =>
      have h0 := h 0 (Nat.zero_lt_succ _) (Nat.zero_lt_succ _)
      exact ⟨h0.1, h0.2, ih (Nat.succ.inj hl) (fun i h1 h2 =>
        h (i + 1) (Nat.succ_lt_succ h1) (Nat.succ_lt_succ h2))⟩

theorem vrleOfGroup_cov {sg : List Char} {rs : List (List (Char × Nat))} {r : List (Char × Nat)}
    (hr : r ∈ rs) (hsig : sigOf r = sg) (hpos : ∀ x ∈ r, 0 < x.2) : Cov (vrleOfGroup sg rs) r := by
  subst hsig
  refine cov_of_getElem (by simp [vrleOfGroup, sigOf]) fun i _ h2 => ?_
  have hc : r[i].1 = (sigOf r).getD i '?' := by simp [sigOf, h2]
  have hn : r[i].2 ∈ rs.map (fun r => (r.getD i ('?', 0)).2) := List.mem_map.2 ⟨r, hr, by simp [h2]⟩
  simp only [vrleOfGroup, List.getElem_map, List.getElem_range]
  -- an open range starts at 1: runs are not empty
  split
  · exact ⟨hc, listMinNat_eq _ ▸ List.min?_getD_le_of_mem hn,
      fun M hM => Option.some.inj hM ▸ listMaxNat_eq _ ▸ List.le_max?_getD_of_mem hn⟩
  · exact ⟨hc, hpos _ (List.getElem_mem h2), fun M hM => nomatch hM⟩

theorem insertVrle_perm (x : Vrle) (l : List Vrle) : (insertVrle x l).Perm (x :: l) :=
  ListAux.insert_perm insertVrle (vrleLt · · = true) (fun _ => rfl) (fun _ _ _ => rfl) x l

theorem foldr_insertVrle_perm (l : List Vrle) : (l.foldr insertVrle []).Perm l :=
  ListAux.foldr_perm_of_insert_perm insertVrle_perm l

theorem mem_foldr_insertVrle {a : Vrle} {l : List Vrle} : a ∈ l.foldr insertVrle [] ↔ a ∈ l :=
  (foldr_insertVrle_perm l).mem_iff

theorem mem_toVrles {rles : List (List (Char × Nat))} {v : Vrle} :
    v ∈ toVrles rles ↔
      ∃ r ∈ rles, v = vrleOfGroup (sigOf r) (rles.filter (fun r' => sigOf r' == sigOf r)) := by
  simp only [toVrles, mem_foldr_insertVrle, List.mem_eraseDups, groupBySig_eq, List.map_map, List.mem_map,
    Function.comp]
  constructor
  · rintro ⟨_, ⟨r, hr, rfl⟩, rfl⟩; exact ⟨r, hr, rfl⟩
  · rintro ⟨r, hr, rfl⟩; exact ⟨_, ⟨r, hr, rfl⟩, rfl⟩

theorem toVrles_covers {rles : List (List (Char × Nat))} (hpos : ∀ r ∈ rles, ∀ x ∈ r, 0 < x.2)
    {r : List (Char × Nat)} (hr : r ∈ rles) :
    ∃ v ∈ toVrles rles, sigOf v = sigOf r ∧ Cov v r :=
  ⟨_, mem_toVrles.2 ⟨r, hr, rfl⟩, sigOf_vrleOfGroup _ _,
    vrleOfGroup_cov (List.mem_filter.2 ⟨hr, beq_self_eq_true _⟩) rfl (hpos r hr)⟩

theorem toVrles_sig_unique {rles : List (List (Char × Nat))} {v w : Vrle}
    (hv : v ∈ toVrles rles) (hw : w ∈ toVrles rles) (h : sigOf v = sigOf w) : v = w := by
  obtain ⟨r, -, rfl⟩ := mem_toVrles.1 hv
  obtain ⟨r', -, rfl⟩ := mem_toVrles.1 hw
  rw [sigOf_vrleOfGroup, sigOf_vrleOfGroup] at h
  rw [h]

theorem sig_of_mem_toVrles {rles : List (List (Char × Nat))} {v : Vrle} (hv : v ∈ toVrles rles) :
    ∃ r ∈ rles, sigOf r = sigOf v := by
  obtain ⟨r, hr, rfl⟩ := mem_toVrles.1 hv
  exact ⟨r, hr, (sigOf_vrleOfGroup _ _).symm⟩

theorem toVrles_length_le (rles : List (List (Char × Nat))) : (toVrles rles).length ≤ rles.length := by
  unfold toVrles
  rw [(foldr_insertVrle_perm _).length_eq, groupBySig_eq]
  refine Nat.le_trans (ListAux.eraseDups_length_le _) ?_
  rw [List.length_map, List.length_map]
  exact Nat.le_trans (ListAux.eraseDups_length_le _) (Nat.le_of_eq (List.length_map _))

def cleanStep (so re : Bool) (st : List (Line × Nat) × Nat) (it : Option Line × Nat) :
    List (Line × Nat) × Nat :=
  match it.1 with
  | none => st
  | some s =>
    if it.2 == 0 then st
    else
      let t := if so then strip s else s
      if re && t.isEmpty then st
      else (bump t it.2 st.1, if t.length != s.length then st.2 + it.2 else st.2)

theorem clean_eq_fold (so re : Bool) (items : List (Option Line × Nat)) :
    clean so re items =
      { strings := (items.foldl (cleanStep so re) ([], 0)).1.map (·.1),
        freqs := (items.foldl (cleanStep so re) ([], 0)).1.map (·.2),
        nStripped := (items.foldl (cleanStep so re) ([], 0)).2 } := rfl

theorem clean_strings_length (so re : Bool) (items : List (Option Line × Nat)) :
    (clean so re items).strings.length = (clean so re items).freqs.length := by
  simp [clean_eq_fold]

theorem bump_keys (k : Line) (n : Nat) (acc : List (Line × Nat)) :
    (bump k n acc).map (·.1) = if k ∈ acc.map (·.1) then acc.map (·.1) else acc.map (·.1) ++ [k] := by
  induction acc with
  | nil => simp [bump]
  | cons a acc ih =>
    obtain ⟨k', m⟩ := a
    by_cases hk : k' = k
    · subst hk; simp [bump]
    · have hk' : (k' == k) = false := by simpa using hk
      have hk2 : ¬ k = k' := fun h => hk h.symm
      simp only [bump, hk', Bool.false_eq_true, if_false, List.map_cons, ih, List.mem_cons, hk2, false_or]
      split <;> simp

theorem bump_bump (t : Line) (a b : Nat) (acc : List (Line × Nat)) :
    bump t a (bump t b acc) = bump t (b + a) acc := by
  induction acc with
  | nil => simp [bump]
  | cons x acc ih =>
    obtain ⟨k', m⟩ := x
    by_cases hk : k' = t
    · subst hk; simp [bump, Nat.add_assoc]
    · have hk' : (k' == t) = false := by simpa using hk
      simp [bump, hk', ih]

theorem cleanStep_add (so re : Bool) (x : Option Line) (a b : Nat) (st : List (Line × Nat) × Nat) :
    cleanStep so re (cleanStep so re st (x, a)) (x, b) = cleanStep so re st (x, a + b) := by
  cases x with
  | none => rfl
  | some s =>
    by_cases ha : a = 0
    · subst ha; rw [Nat.zero_add]; rfl
    by_cases hb : b = 0
    · subst hb; rfl
    by_cases hr : (re && (if so then strip s else s).isEmpty) = true
    · simp [cleanStep, hr]
    · simp only [cleanStep, hr, ha, hb, show a + b ≠ 0 by omega, beq_iff_eq, if_false, bump_bump, Bool.false_eq_true]
      generalize (if so = true then strip s else s) = t
      split <;> simp [Nat.add_assoc]

/-- what an item contributes to `clean`: the cleaned string, its count, and what it adds to `nStripped` -/
def contrib (so re : Bool) : Option Line × Nat → Option (Line × Nat × Nat)
  | (none, _) => none
  | (some s, n) =>
    let t := if so then strip s else s
    if n = 0 ∨ (re = true ∧ t = []) then none else some (t, n, if t.length = s.length then 0 else n)

theorem cleanStep_contrib (so re : Bool) (st : List (Line × Nat) × Nat) (it : Option Line × Nat) :
    cleanStep so re st it =
      match contrib so re it with
      | none => st
      | some (t, n, d) => (bump t n st.1, st.2 + d) := by
  obtain ⟨_ | s, n⟩ := it
  · rfl
  · simp only [cleanStep, contrib, beq_iff_eq, Bool.and_eq_true, List.isEmpty_iff, bne_iff_ne, ne_eq, ite_not]
    by_cases hn : n = 0
    · simp [hn]
    · by_cases hr : re = true ∧ (if so then strip s else s) = []
      · simp [hn, hr]
      · simp only [hn, hr, or_self, if_false]
        generalize (if so then strip s else s) = t
        split <;> simp

theorem contrib_eq_some {so re : Bool} {it : Option Line × Nat} {t : Line} {n d : Nat} :
    contrib so re it = some (t, n, d) ↔ ∃ s, it = (some s, n) ∧ n ≠ 0 ∧ t = (if so then strip s else s) ∧
      ¬ (re = true ∧ t = []) ∧ d = if t.length = s.length then 0 else n := by
  obtain ⟨_ | s, m⟩ := it
  · simp [contrib]
  · simp only [contrib, Option.ite_none_left_eq_some, not_or, Option.some.injEq, Prod.mk.injEq]
    constructor
    · rintro ⟨⟨h1, h2⟩, rfl, rfl, rfl⟩; exact ⟨s, ⟨rfl, rfl⟩, h1, rfl, h2, rfl⟩
    · rintro ⟨s', ⟨⟨rfl⟩, rfl⟩, h1, rfl, h2, rfl⟩; exact ⟨⟨h1, h2⟩, rfl, rfl, rfl⟩

theorem cleanFold_eq (so re : Bool) (items : List (Option Line × Nat)) : ∀ st : List (Line × Nat) × Nat,
    items.foldl (cleanStep so re) st =
      ((items.filterMap (contrib so re)).foldl (fun a c => bump c.1 c.2.1 a) st.1,
       st.2 + ((items.filterMap (contrib so re)).map (·.2.2)).sum) := by
  induction items with
  | nil => intro st; rfl
  | cons it items ih =>
    intro st
    rw [List.foldl_cons, ih, cleanStep_contrib]
    cases h : contrib so re it with
    | none => simp [h]
    | some c => simp [h, Nat.add_assoc]

theorem bumpFold_keys (cs : List (Line × Nat × Nat)) : ∀ acc : List (Line × Nat),
    (cs.foldl (fun a c => bump c.1 c.2.1 a) acc).map (·.1) =
      acc.map (·.1) ++ ((cs.map (·.1)).filter (fun k => !(acc.map (·.1)).contains k)).eraseDups := by
  induction cs with
  | nil => intro acc; rw [List.foldl_nil, List.map_nil, List.filter_nil, List.eraseDups_nil, List.append_nil]
  | cons c cs ih =>
    intro acc
    rw [List.foldl_cons, ih, bump_keys, List.map_cons]
    by_cases h : c.1 ∈ acc.map (·.1)
    · have hc : (acc.map (·.1)).contains c.1 = true := List.contains_iff_mem.2 h
      rw [if_pos h, List.filter_cons_of_neg (by rw [hc]; exact Bool.false_ne_true)]
    · have hc : (acc.map (·.1)).contains c.1 = false := by rwa [← Bool.not_eq_true, List.contains_iff_mem]
      rw [if_neg h, List.filter_cons_of_pos (by rw [hc]; rfl), List.eraseDups_cons, List.filter_filter,
        List.append_assoc, List.singleton_append]
      congr 3
      apply List.filter_congr
      intro b _
      rw [List.contains_append, List.contains_cons, List.contains_nil, Bool.or_false, Bool.not_or, Bool.and_comm]

theorem clean_strings_eq (so re : Bool) (items : List (Option Line × Nat)) :
    (clean so re items).strings = ((items.filterMap (contrib so re)).map (·.1)).eraseDups := by
  rw [clean_eq_fold, cleanFold_eq, bumpFold_keys]
  exact congrArg List.eraseDups (List.filter_eq_self.2 fun _ _ => rfl)

theorem clean_nStripped_eq (so re : Bool) (items : List (Option Line × Nat)) :
    (clean so re items).nStripped = ((items.filterMap (contrib so re)).map (·.2.2)).sum := by
  rw [clean_eq_fold, cleanFold_eq]
  exact Nat.zero_add _

theorem mem_clean_strings {so re : Bool} {items : List (Option Line × Nat)} {t : Line} :
    t ∈ (clean so re items).strings ↔
      ∃ s n, (some s, n) ∈ items ∧ n ≠ 0 ∧ t = (if so then strip s else s) ∧ ¬ (re = true ∧ t = []) := by
  simp only [clean_strings_eq, List.mem_eraseDups, List.mem_map, List.mem_filterMap]
  constructor
  · rintro ⟨⟨t, n, d⟩, ⟨it, hit, hc⟩, rfl⟩
    obtain ⟨s, rfl, h1, h2, h3, -⟩ := contrib_eq_some.1 hc
    exact ⟨s, _, hit, h1, h2, h3⟩
  · rintro ⟨s, n, hit, h1, h2, h3⟩
    exact ⟨(t, n, _), ⟨_, hit, contrib_eq_some.2 ⟨s, rfl, h1, h2, h3, rfl⟩⟩, rfl⟩

/-- examples dropped by `remove_empties` are skipped before the length test, hence the third conjunct:
    `clean true true [(some "  ", 1)]` has `nStripped = 0` -/
theorem clean_nStripped_pos {so re : Bool} {items : List (Option Line × Nat)} :
    (clean so re items).nStripped > 0 ↔
      ∃ s n, (some s, n) ∈ items ∧ n ≠ 0 ∧ ¬ (re = true ∧ (if so then strip s else s) = []) ∧
             (if so then strip s else s).length ≠ s.length := by
  simp only [clean_nStripped_eq, gt_iff_lt, List.sum_pos_iff_exists_pos_nat, List.mem_map, List.mem_filterMap]
  constructor
  · rintro ⟨_, ⟨⟨t, n, d⟩, ⟨it, hit, hc⟩, rfl⟩, hd⟩
    obtain ⟨s, rfl, hn, rfl, hre, rfl⟩ := contrib_eq_some.1 hc
    exact ⟨s, n, hit, hn, hre, fun hl => by simp [hl] at hd⟩
  · rintro ⟨s, n, hit, hn, hre, hl⟩
    exact ⟨n, ⟨(_, n, n), ⟨_, hit, contrib_eq_some.2 ⟨s, rfl, hn, rfl, hre, (if_neg hl).symm⟩⟩, rfl⟩,
      Nat.pos_of_ne_zero hn⟩

theorem clean_nStripped_noStrip (re : Bool) (items : List (Option Line × Nat)) :
    (clean false re items).nStripped = 0 :=
  Nat.eq_zero_of_not_pos fun h => by
    obtain ⟨_, _, -, -, -, hl⟩ := clean_nStripped_pos.1 h
    exact hl rfl

theorem clean_nodup (stripOpt removeEmpties : Bool) (items : List (Option Line × Nat)) :
    (clean stripOpt removeEmpties items).strings.Nodup := by
  rw [clean_strings_eq]
  exact ListAux.nodup_eraseDups _

end TddaVerif.Props.C03.Lemmas
