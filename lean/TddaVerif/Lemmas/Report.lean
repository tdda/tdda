/-
Proofs about the printed verification report (Model/Report.lean): the mark of a verdict (`tcn`, `MarkSet.text`)
and the fields a mode shows (`shown`); nothing is proved about the text of the report (`fieldText`, `reportText`).
-/
import TddaVerif.Model.Report
import TddaVerif.Generated.Report
namespace TddaVerif.Props.C02.ReportLemmas
open TddaVerif.Py TddaVerif.Report

theorem tcn_injective {a b : Option Bool} (h : tcn a = tcn b) : a = b := by
  have inv : ∀ o, (match tcn o with | .nothing => none | .tick => some true | .cross => some false) = o := by
    intro o
    rcases o with _ | _ | _ <;> rfl
  rw [← inv a, h, inv b]

def Distinct (m : MarkSet) : Prop := m.tick ≠ m.cross ∧ m.tick ≠ m.nothing ∧ m.cross ≠ m.nothing

theorem text_injective {m : MarkSet} (hd : Distinct m) {x y : Mark} (h : m.text x = m.text y) : x = y := by
  obtain ⟨h1, h2, h3⟩ := hd
  cases x <;> cases y
  · rfl
  · exact absurd h h1
  · exact absurd h h2
  · exact absurd h.symm h1
  · rfl
  · exact absurd h h3
  · exact absurd h.symm h2
  · exact absurd h.symm h3
  · rfl

theorem mark_determines_verdict (m : MarkSet) (hd : Distinct m) (a b : Option Bool)
    (h : m.text (tcn a) = m.text (tcn b)) : a = b :=
  tcn_injective (text_injective hd h)

theorem shown_all (fs : List Field) : shown .all fs = fs := rfl

theorem mem_shown_fields (fs : List Field) (f : Field) : f ∈ shown .fields fs ↔ f ∈ fs ∧ f.failures > 0 := by
  simp [shown, List.mem_filter]

theorem shown_records (fs : List Field) : shown .records fs = shown .fields fs := rfl

def markSetOf (t : List Char × List Char × List Char) : MarkSet := { tick := t.1, cross := t.2.1, nothing := t.2.2 }

theorem tie_marks_distinct :
    Distinct (markSetOf TddaVerif.Generated.Report.marks) ∧ Distinct (markSetOf TddaVerif.Generated.Report.safeMarks) := by
  unfold Distinct markSetOf
  decide

end TddaVerif.Props.C02.ReportLemmas
