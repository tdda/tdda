/-
Proofs for the exclusion rule of gentest (Model/GentestExcl.lean): where the generated ignore-substrings come from,
and that a changed line holding none of them makes the generated comparison fail (through C04).
-/
import TddaVerif.Model.CheckStrings
import TddaVerif.Lemmas.CheckStrings
import TddaVerif.Props.C04Spec
import TddaVerif.Model.GentestExcl

namespace TddaVerif.Props.C12.ExclLemmas
open TddaVerif.Py TddaVerif.Gentest TddaVerif.CheckStrings TddaVerif.Props.C04

theorem specOf_some {env : Env} {l : LineInfo} {sp : Spec} (h : specOf env l = some sp) :
    sp.info = l ∧ (sp.host = true → contains l.text env.host = true) ∧
    (sp.ip = true → ∀ a, env.ip = some a → contains l.text a = true) ∧
    (sp.cwd = true → contains l.text env.cwd = true) ∧
    (sp.tmpdir = true → ∀ t, env.tmpdir = some t → contains l.text t = true) ∧
    (sp.user = true → contains l.text env.user = true) ∧
    (sp.datelike = true ∨ sp.dtlike = true → l.plausibleDate = true) := by
  unfold specOf at h
  simp only [Option.ite_none_right_eq_some, Option.some.injEq] at h
  obtain ⟨_, rfl⟩ := h
  refine ⟨rfl, id, ?_, id, ?_, ?_, ?_⟩
  · cases env.ip <;> simp
  · cases env.tmpdir <;> simp
  · simp; intro h _; exact h
  · simp; rintro (⟨h, _⟩ | ⟨h, _⟩) <;> exact h

/-- the local function `tok` of `exclusionsOfSpecs`, its `tokens`, and `extradates ++ extradts` -/
def tok (specs : List Spec) (flag : Spec → Bool) : Option Line → List Line
  | some s => if specs.any flag then [s] else []
  | none => []
def tokens (env : Env) (specs : List Spec) : List Line :=
  tok specs (·.host) (some env.host) ++ tok specs (·.ip) env.ip ++ tok specs (·.cwd) (some env.cwd) ++
    tok specs (·.user) (some env.user) ++ tok specs (·.tmpdir) env.tmpdir
def extraDates (specs : List Spec) : List Line :=
  (specs.filter (·.datelike)).flatMap (·.info.dates) ++ (specs.filter (·.dtlike)).flatMap (·.info.dts)

theorem mem_tok {specs : List Spec} {flag : Spec → Bool} {v : Option Line} {s : Line} :
    s ∈ tok specs flag v ↔ some s = v ∧ ∃ sp ∈ specs, flag sp = true := by
  cases v <;> simp [tok, and_comm]

theorem exclusionsOfSpecs_cases (env : Env) (specs : List Spec) :
    exclusionsOfSpecs env specs = ⟨tokens env specs ++ extraDates specs, []⟩ ∨
    exclusionsOfSpecs env specs = ⟨tokens env specs, extraDates specs⟩ := by
  unfold exclusionsOfSpecs
  dsimp only
  split
  · exact .inl (congrArg (Excl.mk · []) (List.append_assoc ..))
  · exact .inr rfl

def TokenOrigin (env : Env) (lines : List LineInfo) (s : Line) : Prop :=
  ∃ l ∈ lines, contains l.text s = true ∧
    (s = env.host ∨ some s = env.ip ∨ s = env.cwd ∨ s = env.user ∨ some s = env.tmpdir)

def DateOrigin (lines : List LineInfo) (s : Line) : Prop :=
  ∃ l ∈ lines, l.plausibleDate = true ∧ (s ∈ l.dates ∨ s ∈ l.dts)

theorem mem_tokens {env : Env} {lines : List LineInfo} {s : Line}
    (h : s ∈ tokens env (lines.filterMap (specOf env))) : TokenOrigin env lines s := by
  simp only [tokens, List.mem_append, mem_tok, List.mem_filterMap, Option.some.injEq, or_assoc] at h
  rcases h with ⟨rfl, sp, ⟨l, hl, hsp⟩, hf⟩ | ⟨hs, sp, ⟨l, hl, hsp⟩, hf⟩ | ⟨rfl, sp, ⟨l, hl, hsp⟩, hf⟩ |
      ⟨rfl, sp, ⟨l, hl, hsp⟩, hf⟩ | ⟨hs, sp, ⟨l, hl, hsp⟩, hf⟩ <;>
    obtain ⟨-, hhost, hip, hcwd, htmp, huser, -⟩ := specOf_some hsp
  · exact ⟨l, hl, hhost hf, .inl rfl⟩
  · exact ⟨l, hl, hip hf s hs.symm, .inr (.inl hs)⟩
  · exact ⟨l, hl, hcwd hf, .inr (.inr (.inl rfl))⟩
  · exact ⟨l, hl, huser hf, .inr (.inr (.inr (.inl rfl)))⟩
  · exact ⟨l, hl, htmp hf s hs.symm, .inr (.inr (.inr (.inr hs)))⟩

theorem mem_extraDates {env : Env} {lines : List LineInfo} {s : Line}
    (h : s ∈ extraDates (lines.filterMap (specOf env))) : DateOrigin lines s := by
  simp only [extraDates, List.mem_append, List.mem_flatMap, List.mem_filter, List.mem_filterMap] at h
  rcases h with ⟨sp, ⟨⟨l, hl, hsp⟩, hf⟩, hs⟩ | ⟨sp, ⟨⟨l, hl, hsp⟩, hf⟩, hs⟩ <;>
    obtain ⟨rfl, -, -, -, -, -, hdate⟩ := specOf_some hsp
  · exact ⟨_, hl, hdate (.inl hf), .inl hs⟩
  · exact ⟨_, hl, hdate (.inr hf), .inr hs⟩

theorem single_run_no_exclusions (env : Env) (lines : List LineInfo) :
    exclusions env 1 lines = { substrings := [], datesToRex := [] } := rfl

theorem exclusions_origin (env : Env) (n : Nat) (lines : List LineInfo) (s : Line) :
    (s ∈ (exclusions env n lines).substrings → TokenOrigin env lines s ∨ DateOrigin lines s) ∧
    (s ∈ (exclusions env n lines).datesToRex → DateOrigin lines s) := by
  unfold exclusions
  split
  · exact ⟨nofun, nofun⟩
  · rcases exclusionsOfSpecs_cases env (lines.filterMap (specOf env)) with h | h <;> rw [h]
    · exact ⟨fun h => (List.mem_append.mp h).imp mem_tokens mem_extraDates, nofun⟩
    · exact ⟨fun h => .inl (mem_tokens h), mem_extraDates⟩

theorem substring_origin (env : Env) (n : Nat) (lines : List LineInfo) (s : Line)
    (h : s ∈ (exclusions env n lines).substrings ∨ s ∈ (exclusions env n lines).datesToRex) :
    (∃ l ∈ lines, contains l.text s = true ∧
        (s = env.host ∨ some s = env.ip ∨ s = env.cwd ∨ s = env.user ∨ some s = env.tmpdir)) ∨
    (∃ l ∈ lines, l.plausibleDate = true ∧ (s ∈ l.dates ∨ s ∈ l.dts)) :=
  h.elim (exclusions_origin env n lines s).1 fun h => .inr ((exclusions_origin env n lines s).2 h)

theorem no_plausible_date_no_date_exclusion (env : Env) (n : Nat) (lines : List LineInfo)
    (hnone : ∀ l ∈ lines, l.plausibleDate = false) :
    (exclusions env n lines).datesToRex = [] ∧
    ∀ s ∈ (exclusions env n lines).substrings,
      s = env.host ∨ some s = env.ip ∨ s = env.cwd ∨ s = env.user ∨ some s = env.tmpdir := by
  have hd (s) : ¬DateOrigin lines s :=
    fun ⟨l, hl, hp, _⟩ => by simp [hnone l hl] at hp
  exact ⟨List.eq_nil_iff_forall_not_mem.mpr fun s hs => hd s ((exclusions_origin env n lines s).2 hs),
    fun s hs => ((exclusions_origin env n lines s).1 hs).elim (fun ⟨_, _, _, h⟩ => h) (absurd · (hd s))⟩

/-- the options hold no pattern: the case in which the dates were few enough to be listed -/
theorem changed_unexcluded_line_fails (subs : List Line) (pat : PatFn) (a e : List Line) (i : Nat)
    (hlen : a.length = e.length) (hi : i < e.length)
    (hlast : e.getLast? ≠ some [] ∧ a.getLast? ≠ some [])
    (hne : a.getD i [] ≠ e.getD i [])
    (hfree : ∀ s ∈ subs, contains (e.getD i []) s = false) :
    (checkStrings { ignoreSubstrings := subs } pat a e).failures = 1 := by
  have hia : i < a.length := hlen ▸ hi
  have hmem : (a.getD i [], e.getD i []) ∈ a.zip e :=
    List.mem_iff_getElem.mpr ⟨i, by rw [List.length_zip]; exact Nat.lt_min.mpr ⟨hia, hi⟩, by simp [hia, hi]⟩
  generalize a.getD i [] = x at hmem hne
  generalize e.getD i [] = y at hmem hne hfree
  refine Lemmas.unexcused_difference_fails _ _ _ _ rfl (List.ne_nil_of_mem (a := (x, y)) ?_)
  rw [badPairs, kept_of_removeLines_nil rfl hlast.2, kept_of_removeLines_nil rfl hlast.1]
  have hsub : subs.any (fun s => contains y s) = false := by simpa [List.any_eq_false] using hfree
  have hn : normalize { ignoreSubstrings := subs } x ≠ normalize { ignoreSubstrings := subs } y := hne
  exact List.mem_filter.mpr ⟨hmem, by
    simp [C04.Lemmas.lineOKb_of_normalize_ne hn, canIgnore, normalize, C04.Lemmas.checkPatterns_zero, hsub, hne]⟩

/- non-vacuity of the last theorem, and the part played by each hypothesis -/
example : (checkStrings { ignoreSubstrings := ["vm".toList] } (fun _ _ => none)
    ["host vm".toList, "n = 1".toList] ["host vm".toList, "n = 2".toList]).failures = 1 := by
  simp only [String.reduceToList]; decide
example : (checkStrings { ignoreSubstrings := ["vm".toList] } (fun _ _ => none)
    ["host vn".toList, "n = 1".toList] ["host vm".toList, "n = 1".toList]).failures = 0 := by
  simp only [String.reduceToList]; decide
-- (`hlast` keeps the proof short; a dropped trailing empty line does not turn such a difference into a pass)
example : (checkStrings { ignoreSubstrings := ["vm".toList] } (fun _ _ => none)
    ["n = 1".toList, "".toList] ["n = 2".toList, "".toList]).failures = 1 := by
  simp only [String.reduceToList]; decide
example : (checkStrings { ignoreSubstrings := ["vm".toList] } (fun _ _ => none)
    ["a".toList, "x".toList] ["a".toList, "".toList]).failures = 1 := by
  simp only [String.reduceToList]; decide

/- non-vacuity: a line with the host name and a line with an old timestamp -/
example :
    (exclusions { host := "vm".toList, ip := some "10.0.0.7".toList, cwd := "/w".toList, homedir := "/root".toList,
                  user := "root".toList, tmpdir := none, userInHome := true, cwdInHome := false } 2
       [{ text := "host vm up".toList, plausibleDate := false, dtLike := false, dates := [], dts := [] },
        { text := "2019-03-04 12:00:01 done".toList, plausibleDate := false, dtLike := true, dates := [],
          dts := ["2019-03-04 12:00:01".toList] }]).substrings = ["vm".toList] := by
  simp only [String.reduceToList]; decide

end TddaVerif.Props.C12.ExclLemmas
