/- `sortLines` (insertion sort for the code-point order, which is core's `<` on `List Char`: Lemmas/PyText.lean)
   characterises permutations. -/
import TddaVerif.Lemmas.PyText
import TddaVerif.Lemmas.ListAux

namespace TddaVerif.Props.C04.Lemmas
open TddaVerif.Py

theorem insertLine_perm (x : Line) (l : List Line) : (insertLine x l).Perm (x :: l) :=
  ListAux.insert_perm insertLine (ltLine · · = true) (fun _ => rfl) (fun _ _ _ => rfl) x l

theorem sortLines_perm (l : List Line) : (sortLines l).Perm l :=
  ListAux.foldr_perm_of_insert_perm insertLine_perm l

theorem insertLine_sorted (x : Line) {l : List Line} (h : l.Pairwise (· ≤ ·)) :
    (insertLine x l).Pairwise (· ≤ ·) :=
  ListAux.insert_sorted insertLine (ltLine · · = true) (fun _ => rfl) (fun _ _ _ => rfl) (· ≤ ·)
    (fun _ _ _ => List.le_trans) (fun _ _ hyx => List.le_of_lt ((ltLine_iff _ _).mp hyx))
    (fun y _ hyx => (ltLine_eq_false_iff y x).mp (by simpa using hyx)) h

theorem sortLines_sorted (l : List Line) : (sortLines l).Pairwise (· ≤ ·) := by
  induction l with
  | nil => simp [sortLines]
  | cons x xs ih => exact insertLine_sorted x ih

theorem sorted_eq_iff_perm (x y : List Line) : sortLines x = sortLines y ↔ x.Perm y :=
  ⟨fun h => (sortLines_perm x).symm.trans (h ▸ sortLines_perm y),
   fun h => ((sortLines_perm x).trans (h.trans (sortLines_perm y).symm)).eq_of_pairwise
     (fun _ _ _ _ => List.le_antisymm) (sortLines_sorted x) (sortLines_sorted y)⟩

end TddaVerif.Props.C04.Lemmas
