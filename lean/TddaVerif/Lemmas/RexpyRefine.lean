/- Refining one VRLE from what its fragments captured in the examples keeps every example matched (`refineFrag_sound`,
   `refineVrle_sound`).  The fine analysis of the captures of an alphanumeric fragment (`expandOrFalsify`; `vlf` is the
   option `variableLengthFrags`) is put in a structurally recursive form (`join`); the VRLE it ends with covers the encoding
   of every capture (`analysis_cov`), and a covering VRLE read as a pattern matches (`matches_of_cov`). -/
import TddaVerif.Model.Rexpy
import TddaVerif.Props.C03Spec
import TddaVerif.Lemmas.RexpyMatch
import TddaVerif.Lemmas.RexpyVrle
import TddaVerif.Lemmas.ListAux

namespace TddaVerif.Props.C03.Lemmas
open TddaVerif.Py TddaVerif.Rexpy TddaVerif.Props.C03

def fragsOfVrle (v : Vrle) : Pattern :=
  v.map (fun f => { atom := .code f.1, m := f.2.1, M := f.2.2, fixed := false })

theorem fragsOfVrle_length (v : Vrle) : (fragsOfVrle v).length = v.length := List.length_map _

open TddaVerif.Props.C14.PermLemmas (Ent init0 init1)

theorem widen_fst (n : Nat) (v : Ent) : (widen n v).1 = v.1 := by
  obtain ⟨c, m, M⟩ := v
  cases M <;> simp only [widen] <;> repeat' split
  all_goals rfl

theorem widen_eq (n : Nat) {e : Ent} (he : NonemptyRange e) :
    widen n e = (e.1, min e.2.1 n, e.2.2.map (fun M => max M n)) := by
  obtain ⟨c, m, M⟩ := e
  cases M with
  | none =>
    simp only [widen, Option.map_none, Nat.min_def]
    split <;> rfl
  | some M =>
    have hm : m ≤ M := he M rfl
    simp only [widen, Option.map_some, Bool.and_eq_true, decide_eq_true_eq]
    split
    · rename_i h
      rw [Nat.min_eq_left h.1, Nat.max_eq_left h.2]
    · split
      · rw [Nat.min_eq_right (by omega), Nat.max_eq_left (by omega)]
      · rw [Nat.min_eq_left (by omega), Nat.max_eq_right (by omega)]

theorem InRange.nonemptyRange {n : Nat} {e : Ent} (h : InRange n e) : NonemptyRange e :=
  fun M hM => Nat.le_trans h.1 (h.2 M hM)

theorem widen_inRange_self (n : Nat) {v : Ent} (hv : NonemptyRange v) : InRange n (widen n v) := by
  rw [widen_eq n hv]
  refine ⟨Nat.min_le_right _ _, fun M hM => ?_⟩
  obtain ⟨M0, -, rfl⟩ := Option.map_eq_some_iff.1 hM
  exact Nat.le_max_right _ _

theorem widen_inRange_mono (n : Nat) {n0 : Nat} {v : Ent} (h : InRange n0 v) : InRange n0 (widen n v) := by
  rw [widen_eq n h.nonemptyRange]
  refine ⟨Nat.le_trans (Nat.min_le_left _ _) h.1, fun M hM => ?_⟩
  obtain ⟨M0, h0, rfl⟩ := Option.map_eq_some_iff.1 hM
  exact Nat.le_trans (h.2 M0 h0) (Nat.le_max_left _ _)

theorem widen_nonemptyRange (n : Nat) {v : Ent} (hv : NonemptyRange v) : NonemptyRange (widen n v) :=
  (widen_inRange_self n hv).nonemptyRange

theorem inRange_init1 (x : Char × Nat) : InRange x.2 (init1 x) :=
  ⟨Nat.le_refl _, fun _ hM => Nat.le_of_eq (Option.some.inj hM)⟩

theorem inRange_init0 (x : Char × Nat) : InRange x.2 (init0 x) :=
  ⟨Nat.zero_le _, fun _ hM => Nat.le_of_eq (Option.some.inj hM)⟩

theorem allNonemptyRange_map {α : Type} (g : α → Ent) (hg : ∀ x, NonemptyRange (g x)) (l : List α) :
    AllNonemptyRange (l.map g) := by
  intro e he
  obtain ⟨x, -, rfl⟩ := List.mem_map.1 he
  exact hg x

theorem allNonemptyRange_init1 (r : List (Char × Nat)) : AllNonemptyRange (r.map init1) :=
  allNonemptyRange_map init1 (fun x => (inRange_init1 x).nonemptyRange) r

/-- `expandOrFalsify` from a VRLE so far (`expandOrFalsify_so_eq`), by structural recursion -/
def join (vlf : Bool) : List (Char × Nat) → List Ent → Option (List Ent)
  | [], [] => some []
  | [], v :: vs => if vlf then some ((v :: vs).map zeroed) else none
  | r :: rs, [] => if vlf then some ((r :: rs).map init0) else none
  | r :: rs, v :: vs => if r.1 == v.1 then (join vlf rs vs).map (fun t => widen r.2 v :: t) else none

theorem join_nil_left (vlf : Bool) (v : List Ent) :
    join vlf [] v = if vlf || v.isEmpty then some (v.map zeroed) else none := by
  cases v <;> cases vlf <;> simp [join]

theorem join_nil_right (vlf : Bool) (r : List (Char × Nat)) :
    join vlf r [] = if vlf || r.isEmpty then some (r.map init0) else none := by
  cases r <;> cases vlf <;> simp [join]

theorem join_cons_cons (vlf : Bool) (x : Char × Nat) (xs : List (Char × Nat)) (e : Ent) (es : List Ent) :
    join vlf (x :: xs) (e :: es) = if x.1 == e.1 then (join vlf xs es).map (fun t => widen x.2 e :: t) else none := rfl

def Ana.ofOption : Option (List Ent) → Ana
  | some o => .so o
  | none => .failed

def Ana.cons (w : Ent) : Ana → Ana
  | .so t => .so (w :: t)
  | a => a

/-- peeling one pair off both lists commutes with the length test, `min`, `take` and `drop` of `expandOrFalsify` -/
theorem expandOrFalsify_cons_cons (vlf : Bool) (x : Char × Nat) (xs : List (Char × Nat)) (e : Ent) (es : List Ent) :
    expandOrFalsify vlf (x :: xs) (.so (e :: es)) =
      if x.1 == e.1 then Ana.cons (widen x.2 e) (expandOrFalsify vlf xs (.so es)) else .failed := by
  simp only [expandOrFalsify, List.length_cons, Nat.succ_min_succ, List.take_succ_cons, List.drop_succ_cons,
    expandZip, Nat.succ_eq_add_one, Nat.add_right_cancel_iff, beq_iff_eq]
  by_cases hx : x.1 = e.1
  · rw [if_pos hx, if_pos hx, if_pos hx]
    by_cases hl : xs.length = es.length
    · rw [if_pos hl, if_pos hl]
      cases expandZip xs es <;> rfl
    · rw [if_neg hl, if_neg hl]
      split
      · rfl
      · cases expandZip (xs.take (min xs.length es.length)) (es.take (min xs.length es.length)) with
        | none => rfl
        | some o => simp only [Option.map_some, List.cons_append]; split <;> rfl
  · simp only [hx, if_false]
    split
    · rfl
    · split <;> rfl

theorem expandOrFalsify_so_eq (vlf : Bool) (r : List (Char × Nat)) (v : List Ent) :
    expandOrFalsify vlf r (.so v) = Ana.ofOption (join vlf r v) := by
  induction r generalizing v with
  | nil => cases v <;> cases vlf <;> rfl
  | cons x xs ih =>
    cases v with
    | nil => cases vlf <;> rfl
    | cons e es =>
      rw [expandOrFalsify_cons_cons, ih, join_cons_cons]
      split
      · cases join vlf xs es <;> rfl
      · rfl

theorem join_sound {vlf : Bool} {r : List (Char × Nat)} {v o : List Ent} (hv : AllNonemptyRange v)
    (h : join vlf r v = some o) : AllNonemptyRange o ∧ Cov o r ∧ ∀ r0, Cov v r0 → Cov o r0 := by
  induction r generalizing v o with
  | nil =>
    rw [join_nil_left] at h
    split at h <;> cases h
    exact ⟨allNonemptyRange_map zeroed nonemptyRange_zeroed v, cov_map_nil zeroed (fun _ => rfl) v,
      cov_map zeroed (fun _ => ⟨rfl, fun _ h => ⟨Nat.zero_le _, h.2⟩⟩) v⟩
  | cons x xs ih =>
    cases v with
    | nil =>
      rw [join_nil_right] at h
      split at h <;> cases h
      refine ⟨allNonemptyRange_map init0 (fun x => (inRange_init0 x).nonemptyRange) _,
        cov_map_self init0 (fun x => ⟨rfl, inRange_init0 x⟩) _, fun r0 h0 => ?_⟩
      cases r0 with
      | nil => exact cov_map_nil init0 (fun _ => rfl) _
      | cons _ _ => exact h0.elim
    | cons e es =>
      obtain ⟨he, hes⟩ : NonemptyRange e ∧ AllNonemptyRange es := List.forall_mem_cons.1 hv
      rw [join_cons_cons] at h
      split at h
      · rename_i hx
        obtain ⟨t, ht, rfl⟩ := Option.map_eq_some_iff.1 h
        obtain ⟨h1, h2, h3⟩ := ih hes ht
        exact ⟨List.forall_mem_cons.2 ⟨widen_nonemptyRange _ he, h1⟩,
          ⟨(eq_of_beq hx).trans (widen_fst _ _).symm, widen_inRange_self _ he, h2⟩,
          cov_cons_mono (widen_fst _ _) (fun _ => widen_inRange_mono _) h3⟩
      · cases h

/-- invariant of the analysis: the VRLE so far covers the encoding `h g` of every capture seen -/
def AnaInv (h : Line → List (Char × Nat)) (a : Ana) (seen : List Line) : Prop :=
  match a with
  | .notYet => seen = []
  | .failed => True
  | .so v => AllNonemptyRange v ∧ ∀ g ∈ seen, Cov v (h g)

theorem anaInv_step (vlf : Bool) {h : Line → List (Char × Nat)} {a : Ana} {seen : List Line} (g : Line)
    (hi : AnaInv h a seen) : AnaInv h (expandOrFalsify vlf (h g) a) (seen ++ [g]) := by
  cases a with
  | notYet =>
    cases hi
    exact ⟨allNonemptyRange_init1 _,
      List.forall_mem_singleton.2 (cov_map_self init1 (fun x => ⟨rfl, inRange_init1 x⟩) _)⟩
  | failed => trivial
  | so v =>
    rw [expandOrFalsify_so_eq]
    cases hr : join vlf (h g) v with
    | none => trivial
    | some v' =>
      obtain ⟨h1, h2, h3⟩ := join_sound hi.1 hr
      exact ⟨h1, List.forall_mem_append.2 ⟨fun g' hg' => h3 _ (hi.2 g' hg'), List.forall_mem_singleton.2 h2⟩⟩

theorem anaInv_fold (vlf : Bool) (h : Line → List (Char × Nat)) (caps : List Line) (a : Ana) (seen : List Line)
    (hi : AnaInv h a seen) :
    AnaInv h (caps.foldl (fun a g => expandOrFalsify vlf (h g) a) a) (seen ++ caps) := by
  induction caps generalizing a seen with
  | nil => simpa using hi
  | cons g gs ih =>
    have := ih _ _ (anaInv_step vlf g hi)
    simpa using this

theorem rleFcC_eq (T : CharTable) (E : List Char) (vlf : Bool) (g : Line) (fc ch : Ana) :
    rleFcC T E vlf g fc ch =
      (expandOrFalsify vlf (rle (g.map (fineClass T E))) fc, expandOrFalsify vlf (rle g) ch) := by
  unfold rleFcC
  split
  · rename_i h
    simp only [Bool.and_eq_true, beq_iff_eq] at h
    rw [h.1, h.2]
    rfl
  · rfl

theorem fold_rleFcC (T : CharTable) (E : List Char) (vlf : Bool) (caps : List Line) (a b : Ana) :
    caps.foldl (fun (st : Ana × Ana) g => rleFcC T E vlf g st.1 st.2) (a, b) =
      (caps.foldl (fun a g => expandOrFalsify vlf (rle (g.map (fineClass T E))) a) a,
       caps.foldl (fun b g => expandOrFalsify vlf (rle g) b) b) := by
  simp only [rleFcC_eq]
  induction caps generalizing a b with
  | nil => rfl
  | cons g gs ih => simp only [List.foldl_cons, ih]

theorem analysis_cov {vlf : Bool} {h : Line → List (Char × Nat)} {caps : List Line} {v : List Ent}
    (hv : caps.foldl (fun a g => expandOrFalsify vlf (h g) a) .notYet = .so v) : ∀ g ∈ caps, Cov v (h g) := by
  have := anaInv_fold vlf h caps .notYet [] rfl
  rw [hv] at this
  simpa using this.2

theorem lo_le_m (f : Frag) : f.lo ≤ f.m := by
  unfold Frag.lo
  split
  · exact Nat.min_le_left _ _
  · exact Nat.le_refl _

theorem cov_plusify {v : List Ent} {r : List (Char × Nat)} : Cov v r → Cov (v.map plusify) r := by
  refine cov_map plusify (fun e => ?_) v r
  unfold plusify
  split
  · exact ⟨rfl, fun _ h => h⟩
  · split
    · exact ⟨rfl, fun _ h => h⟩
    · exact ⟨rfl, fun _ h => ⟨h.1, fun _ hM => nomatch hM⟩⟩

theorem matches_of_cov {T : CharTable} {E : List Char} (A : Char → Atom) (hA : ∀ k lit, A k ≠ .escStr lit)
    {fx : Bool} {f : Char → Char} {v : List Ent} {r : List (Char × Nat)} {s : Line}
    (hc : Cov v r) (hr : Runs f r s) (hs : ∀ c ∈ s, atomChar T E (A (f c)) c = true) :
    Matches T E (v.map (fun e => { atom := A e.1, m := e.2.1, M := e.2.2, fixed := fx })) s := by
  have acc : ∀ (e : Ent) (p : Line), InRange p.length e → (∀ c ∈ p, atomChar T E (A e.1) c = true) →
      fragAccepts T E { atom := A e.1, m := e.2.1, M := e.2.2, fixed := fx } p = true := fun e p h hp =>
    (fragAccepts_iff (hA _)).2 ⟨Nat.le_trans (lo_le_m _) h.1, h.2, hp⟩
  induction v generalizing r s with
  | nil =>
    cases r with
    | nil => cases hr; exact Matches.nil
    | cons x xs => exact hc.elim
  | cons e es ih =>
    cases r with
    | nil =>
      cases hr
      exact Matches.cons _ _ [] [] (acc e [] hc.1 (fun _ h => nomatch h)) (ih hc.2 rfl (fun _ h => nomatch h))
    | cons x xs =>
      obtain ⟨p, q, rfl, hpl, -, hpf, hq⟩ := hr
      obtain ⟨h1, h2, h3⟩ := hc
      refine Matches.cons _ _ p q (acc e p (hpl ▸ h2) fun c hc' => ?_)
        (ih h3 hq (fun c hc' => hs c (List.mem_append_right _ hc')))
      rw [← h1, ← hpf c hc']
      exact hs c (List.mem_append_left _ hc')

def capStep (cap : Nat) (acc : List Line) (g : Line) : List Line :=
  if acc.length ≤ cap && !acc.contains g then acc ++ [g] else acc

theorem capStep_single_iff {cap : Nat} (hcap : 1 ≤ cap) {s g : Line} {acc : List Line} :
    capStep cap acc g = [s] ↔ (acc = [] ∨ acc = [s]) ∧ g = s := by
  unfold capStep
  match acc with
  | [] => simp
  | [a] =>
    by_cases hag : a = g
    · subst hag; simp
    · -- room for a second string: `g` is appended, and two strings are not one
      have h1 : ([a].length ≤ cap && ![a].contains g) = true := by simpa using ⟨hcap, fun e => hag e.symm⟩
      rw [if_pos h1]
      simp only [List.cons_append, List.nil_append, List.cons.injEq, and_false,
        false_or, List.cons_ne_self, false_iff, not_and, and_true]
      rintro rfl; exact fun e => hag e.symm
  | a :: b :: rest => split <;> simp

theorem cappedFold_single_iff {cap : Nat} (hcap : 1 ≤ cap) {s : Line} {gs acc : List Line} :
    gs.foldl (capStep cap) acc = [s] ↔ (acc = [s] ∨ acc = [] ∧ gs ≠ []) ∧ ∀ g ∈ gs, g = s := by
  induction gs generalizing acc with
  | nil => simp
  | cons g gs ih =>
    -- after one step the accumulator is not empty, so it must be `[s]`
    have hne : capStep cap acc g ≠ [] := by
      cases acc with
      | nil => simp [capStep]
      | cons a as => unfold capStep; split <;> simp
    rw [List.foldl_cons, ih, capStep_single_iff hcap]
    simp only [hne, false_and, false_or, ne_eq, List.cons_ne_nil, not_false_eq_true, and_true, List.mem_cons,
      forall_eq_or_imp, and_assoc, or_comm]

/-- false for `cap = 0`: `cappedStrings 0 ["ab", "cd"] = ["ab"]`, the second string finds the list longer than the cap.
    Hence `hcap` in the soundness theorems: `refineFrag` would answer the literal `ab`, which does not match `cd`. -/
theorem cappedStrings_single_iff {cap : Nat} (hcap : 1 ≤ cap) {s : Line} {gs : List Line} :
    cappedStrings cap gs = [s] ↔ gs ≠ [] ∧ ∀ g ∈ gs, g = s := by
  show gs.foldl (capStep cap) [] = [s] ↔ _
  simpa using cappedFold_single_iff hcap (s := s) (gs := gs) (acc := [])

theorem mem_insertChar {x c : Char} {l : List Char} : c ∈ insertChar x l ↔ c = x ∨ c ∈ l := by
  induction l with
  | nil => simp [insertChar]
  | cons y ys ih =>
    simp only [insertChar]
    split
    · rw [List.mem_cons, ih, List.mem_cons]
      exact or_left_comm
    · split
      · obtain rfl : y = x := eq_of_beq ‹_›
        simp
      · simp

theorem mem_charSet {ls : List Line} {c : Char} : c ∈ charSet ls ↔ ∃ l ∈ ls, c ∈ l := by
  unfold charSet
  have : ∀ l : List Char, c ∈ l.foldr insertChar [] ↔ c ∈ l := by
    intro l
    induction l with
    | nil => simp
    | cons a as ih => simp [mem_insertChar, ih]
  rw [this, List.mem_flatten]

theorem matches_single_of_coarse {T : CharTable} {E : List Char} {k : Char} {m : Nat} {M : Option Nat} {a : Atom} {fx : Bool}
    (ha : ∀ lit, a ≠ .escStr lit) {g : Line}
    (h : fragAccepts T E { atom := .code k, m := m, M := M, fixed := false } g = true)
    (hg : ∀ c ∈ g, atomChar T E a c = true) :
    Matches T E [{ atom := a, m := m, M := M, fixed := fx }] g := by
  have hm : fragAccepts T E { atom := a, m := m, M := M, fixed := fx } g = true := by
    rw [fragAccepts_iff (by simpa using ha)]
    rw [fragAccepts_iff (by simp)] at h
    exact ⟨h.1, h.2.1, hg⟩
  exact matches_single_iff.2 hm

theorem generalise_sound {T : CharTable} {E : List Char} {k0 : Char} {m : Nat} {M : Option Nat}
    {chars : List Char} (n : Nat) {g : Line}
    (h : fragAccepts T E { atom := .code k0, m := m, M := M, fixed := false } g = true)
    (hch : ∀ c ∈ g, c ∈ chars) :
    Matches T E (refineFrag.generalise T E k0 m M chars n).1 g := by
  unfold refineFrag.generalise
  split
  · rename_i k hk
    have := List.find?_some hk
    simp only [Bool.and_eq_true, List.all_eq_true] at this
    exact matches_single_of_coarse (by simp) h (fun c hc => this.2 c (hch c hc))
  · exact matches_single_iff.2 h

/-- refining one fragment is sound: a capture that the coarse fragment accepts is matched by the fragments replacing it -/
theorem refineFrag_sound {T : CharTable} (hT : Consistent T) {E : List Char} (vlf : Bool) {sz : Sizes}
    (hcap : 1 ≤ sz.maxStringsInGroup) {fr : Ent} {caps : List Line} (nGroups : Nat) {g : Line} (hg : g ∈ caps)
    (hacc : fragAccepts T E { atom := .code fr.1, m := fr.2.1, M := fr.2.2, fixed := false } g = true) :
    Matches T E (refineFrag T E vlf sz fr caps nGroups).1 g := by
  have hchars : ∀ c ∈ g, c ∈ charSet caps := fun c hc => mem_charSet.2 ⟨g, hg, hc⟩
  have hgen := generalise_sound nGroups hacc hchars
  unfold refineFrag
  simp only [fold_rleFcC]
  split
  · rename_i s hs
    obtain rfl := ((cappedStrings_single_iff hcap).1 hs).2 g hg
    exact matches_single_iff.2 (by simp [fragAccepts])
  · split
    · rename_i x hx
      refine matches_single_of_coarse (by simp) hacc fun c hc => ?_
      exact beq_iff_eq.2 (List.mem_singleton.1 (hx ▸ hchars c hc)).symm
    · split
      · rename_i hU
        split
        · -- `ch = .so v`: the analysis by characters went through
          rename_i v hv
          split
          · exact matches_of_cov .rawChar (by simp) (f := id)
              (cov_plusify (analysis_cov hv g hg)) (by simpa using runs_rle id g)
              (by intro c _; simp [atomChar])
          · exact hgen
        · -- `fc = .so v`: the analysis by fine classes went through
          rename_i v hv _
          split
          · refine matches_of_cov .code (by simp)
              (cov_plusify (analysis_cov hv g hg)) (runs_rle (fineClass T E) g) fun c hc => ?_
            have := ((fragAccepts_iff (by simp)).1 hacc).2.2 c hc
            rw [eq_of_beq hU] at this
            exact fineClass_ok hT this
          · exact hgen
        · exact hgen
      · split
        · exact matches_single_of_coarse (by simp) hacc (by simpa [atomChar] using hchars)
        · exact matches_single_iff.2 hacc

def wsFrag : Frag := { atom := .code cWhite, m := 0, M := none, fixed := false }

/-- what `wrapWs` puts on either side -/
def wsL (w : Bool) : Pattern := if w then [wsFrag] else []

theorem wsL_true : wsL true = [wsFrag] := rfl
theorem wsL_false : wsL false = [] := rfl

theorem wrapWs_eq (w : Bool) (p : Pattern) : wrapWs w p = wsL w ++ p ++ wsL w := by
  cases w
  · rw [wsL_false, List.nil_append, List.append_nil]; rfl
  · rfl

theorem piecesOK_single {T : CharTable} {E : List Char} {f : Frag} {r : List Line}
    (h : PiecesOK T E [f] r) : ∃ x, r = [x] ∧ Matches T E [f] x := by
  cases r with
  | nil => simp [PiecesOK] at h
  | cons x xs =>
    cases xs with
    | nil => exact ⟨x, rfl, matches_single_iff.2 h.1⟩
    | cons y ys => simp [PiecesOK] at h

/-- what `refineVrle` keeps of the match of one example: the captures of the VRLE's own fragments -/
def capsOf (T : CharTable) (E : List Char) (w : Bool) (v : Vrle) (e : Line) : Option (List Line) :=
  (matchCap T E (wrapWs w (fragsOfVrle v)) e).map (fun r => if w then (r.drop 1).take v.length else r)

theorem example_pieces {T : CharTable} {E : List Char} {w : Bool} {v : Vrle} {e : Line}
    (h : Matches T E (wrapWs w (fragsOfVrle v)) e) :
    ∃ pre inner post, capsOf T E w v e = some inner ∧ PiecesOK T E (fragsOfVrle v) inner ∧
      e = pre ++ inner.flatten ++ post ∧ Matches T E (wsL w) pre ∧ Matches T E (wsL w) post := by
  obtain ⟨r, hr⟩ := Option.isSome_iff_exists.1 (matchCap_complete T E _ e h)
  obtain ⟨hfl, hp⟩ := matchCap_piecesOK hr
  unfold capsOf
  rw [hr]
  cases w with
  | false => exact ⟨[], r, [], rfl, by simpa [wrapWs] using hp, by simp [hfl], Matches.nil, Matches.nil⟩
  | true =>
    rw [wrapWs_eq] at hp
    obtain ⟨r12, r3, rfl, h12, h3⟩ := piecesOK_append hp
    obtain ⟨r1, r2, rfl, h1, h2⟩ := piecesOK_append h12
    obtain ⟨x, rfl, hx⟩ := piecesOK_single h1
    obtain ⟨y, rfl, hy⟩ := piecesOK_single h3
    have hl : r2.length = v.length := by rw [(piecesOK_iff.1 h2).1, fragsOfVrle_length]
    refine ⟨x, r2, y, ?_, h2, ?_, hx, hy⟩
    · simp [← hl]
    · rw [← hfl]; simp

/-- the concatenation of the refined fragments (the body of `refineVrle`) -/
def blocks (T : CharTable) (E : List Char) (vlf : Bool) (sz : Sizes) (v : Vrle) (caps : List (List Line)) : Pattern :=
  ((List.range v.length).foldl (fun (st : List Frag × Nat) i =>
      ((st.1 ++ (refineFrag T E vlf sz (v.getD i ('?', 0, none)) (column caps i) st.2).1),
       (refineFrag T E vlf sz (v.getD i ('?', 0, none)) (column caps i) st.2).2)) ([], v.length)).1

theorem refineVrle_eq (T : CharTable) (E : List Char) (vlf : Bool) (sz : Sizes) (w : Bool) (v : Vrle)
    (examples : List Line) :
    refineVrle T E vlf sz w v examples = (examples.mapM (capsOf T E w v)).map (blocks T E vlf sz v) := rfl

/-- the `assert m is not None` of analyse_fragments holds whenever the coarse pattern matches the examples -/
theorem refineVrle_some {T : CharTable} {E : List Char} {vlf : Bool} {sz : Sizes} {w : Bool} {v : Vrle}
    {examples : List Line} (hm : ∀ e ∈ examples, Matches T E (wrapWs w (fragsOfVrle v)) e) :
    refineVrle T E vlf sz w v examples = some (blocks T E vlf sz v (examples.filterMap (capsOf T E w v))) := by
  rw [refineVrle_eq, ListAux.mapM_eq_some_filterMap]
  · rfl
  · intro e he
    obtain ⟨_, inner, _, h, -⟩ := example_pieces (hm e he)
    exact ⟨inner, h⟩

theorem matches_foldl_append {T : CharTable} {E : List Char} (R : Nat → Nat → List Frag × Nat) (P : Nat → Line)
    (idx : List Nat) (h : ∀ i ∈ idx, ∀ n, Matches T E (R i n).1 (P i))
    (st0 : List Frag × Nat) (s0 : Line) (h0 : Matches T E st0.1 s0) :
    Matches T E (idx.foldl (fun st i => (st.1 ++ (R i st.2).1, (R i st.2).2)) st0).1
      (s0 ++ (idx.map P).flatten) := by
  induction idx generalizing st0 s0 with
  | nil => simpa using h0
  | cons i is ih =>
    have := ih (fun j hj => h j (by simp [hj])) (st0.1 ++ (R i st0.2).1, (R i st0.2).2) (s0 ++ P i)
      (matches_append h0 (h i (by simp) st0.2))
    simpa using this

theorem blocks_sound {T : CharTable} (hT : Consistent T) {E : List Char} (vlf : Bool) {sz : Sizes}
    (hcap : 1 ≤ sz.maxStringsInGroup) {v : Vrle} {caps : List (List Line)} {row : List Line} (hrow : row ∈ caps)
    (hok : PiecesOK T E (fragsOfVrle v) row) : Matches T E (blocks T E vlf sz v caps) row.flatten := by
  obtain ⟨hlen, hacc⟩ := piecesOK_iff.1 hok
  rw [fragsOfVrle_length] at hlen hacc
  have := matches_foldl_append (T := T) (E := E)
    (fun i n => refineFrag T E vlf sz (v.getD i ('?', 0, none)) (column caps i) n)
    (fun i => row.getD i []) (List.range v.length) (fun i hi n => ?_) ([], v.length) [] Matches.nil
  · rw [← hlen, ListAux.map_getD_range] at this
    simpa [blocks, hlen] using this
  · have hi : i < v.length := List.mem_range.1 hi
    refine refineFrag_sound hT vlf hcap n (List.mem_map.2 ⟨row, hrow, rfl⟩) ?_
    simpa [fragsOfVrle, List.getD_eq_getElem?_getD, List.getElem?_map, hi] using hacc i hi

/-- refining a VRLE is sound: if the (possibly whitespace-wrapped) coarse pattern of the VRLE matches every example of
    the group, so does the equally wrapped refined pattern -/
theorem refineVrle_sound {T : CharTable} (hT : Consistent T) {E : List Char} {vlf : Bool} {sz : Sizes}
    (hcap : 1 ≤ sz.maxStringsInGroup) {w : Bool} {v : Vrle} {examples : List Line}
    (hm : ∀ e ∈ examples, Matches T E (wrapWs w (fragsOfVrle v)) e) {p : Pattern}
    (hp : refineVrle T E vlf sz w v examples = some p) :
    ∀ e ∈ examples, Matches T E (wrapWs w p) e := by
  obtain rfl := Option.some.inj ((refineVrle_some hm).symm.trans hp)
  intro e he
  obtain ⟨pre, inner, post, hin, hok, rfl, hpre, hpost⟩ := example_pieces (hm e he)
  rw [wrapWs_eq]
  exact matches_append (matches_append hpre
    (blocks_sound hT vlf hcap (List.mem_filterMap.2 ⟨_, he, hin⟩) hok)) hpost

end TddaVerif.Props.C03.Lemmas
