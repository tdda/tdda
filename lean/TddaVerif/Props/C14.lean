/-
C14 — rexpy results depend only on the multiset of examples and the seed.
Proved here (for the batch path, i.e. below the sampling threshold): reordering the examples changes nothing
(the whole result - patterns in order, extra letters, whitespace wrapping - is equal, with or without pruning
options); list form = dictionary form; frequencies are irrelevant without pruning options; repeating an example
is a no-op; the pandas-column form (pdextract) equals the list form.  (That a call is a function of its
inputs alone needs no theorem: the model has no hidden state.)  The behaviour under
sampling, seeds, the regex memo and the global PRNG are decided by the oracle on the real code.
`Lemmas.` below is `C14.Lemmas` (Lemmas/RexpyInvariance.lean); what comes from C03 is written `C03.Lemmas.`.
-/
import TddaVerif.Model.Rexpy
import TddaVerif.Props.C03Spec
import TddaVerif.Lemmas.RexpyInvariance
import TddaVerif.Lemmas.RexpyPerm
import TddaVerif.Model.RexpySeries
import TddaVerif.Lemmas.RexpySeries

namespace TddaVerif.Props.C14
open TddaVerif.Py TddaVerif.Rexpy TddaVerif.Props.C03

/-- **order independence**: any reordering of the examples gives the same result. (The cap on remembered
    fragment strings must be at least 1 - it is 10; with a cap of 0 the first example would win:
    `PermLemmas.refineFrag_cap0_order_dependent`.) -/
theorem order_independent (T : CharTable) (o : Opts) (hcap : 1 ≤ o.sizes.maxStringsInGroup)
    (items items' : List (Option Line × Nat)) (h : items.Perm items') : extract T o items = extract T o items' :=
  PermLemmas.extract_perm T hcap h

/-- **order independence for every Size setting**: the code reads the cap as `max(cap, 1)` (what it computes for the
    options `o` is `extract T o.norm`), so no condition on the sizes is left -/
theorem order_independent_every_size (T : CharTable) (o : Opts)
    (items items' : List (Option Line × Nat)) (h : items.Perm items') : extract T o.norm items = extract T o.norm items' :=
  order_independent T o.norm (C03.Lemmas.one_le_cap_norm o) items items' h

/-- the default Size satisfies the cap hypothesis -/
example : 1 ≤ ({} : Opts).sizes.maxStringsInGroup := by decide

theorem clean_dict_eq_list (stripOpt removeEmpties : Bool) (items : List (Option Line × Nat)) :
    clean stripOpt removeEmpties (Lemmas.expand items) = clean stripOpt removeEmpties items :=
  Lemmas.clean_expand stripOpt removeEmpties items

/-- a frequency dictionary and the list it stands for give the same result -/
theorem dict_eq_list (T : CharTable) (o : Opts) (items : List (Option Line × Nat)) :
    extract T o (Lemmas.expand items) = extract T o items := by
  unfold extract
  rw [Lemmas.clean_expand]

/-- without pruning options only which strings were supplied matters, not how often -/
theorem freq_irrelevant (T : CharTable) (o : Opts)
    (hprune : o.maxPatterns = none ∧ o.minStrings ≤ 1) (items items' : List (Option Line × Nat))
    (hs : (clean o.stripOpt o.removeEmpties items).strings = (clean o.stripOpt o.removeEmpties items').strings)
    (hn : decide ((clean o.stripOpt o.removeEmpties items).nStripped > 0)
            = decide ((clean o.stripOpt o.removeEmpties items').nStripped > 0)) :
    extract T o items = extract T o items' :=
  Lemmas.extract_of_same_strings T hprune.1 hprune.2 hs hn

/-- repeating an example changes nothing -/
theorem repeat_is_noop (T : CharTable) (o : Opts)
    (hprune : o.maxPatterns = none ∧ o.minStrings ≤ 1) (items : List (Option Line × Nat)) (s : Line) (n k : Nat)
    (hin : (some s, n) ∈ items) (hn : n ≠ 0) :
    extract T o (items ++ [(some s, k)]) = extract T o items :=
  Lemmas.repeat_is_noop T o hprune items s n k hin hn

/-- **pandas-column form** (pdextract): the distinct non-null values of each column, columns concatenated, give the
    same result as the plain list of all the values - nulls and repeats included, any number of columns -/
theorem series_eq_list (T : CharTable) (cols : List (List (Option Line))) :
    extract T {} (pdextractItems cols) = extract T {} (cols.flatten.map (fun s => (s, 1))) :=
  C03.Lemmas.series_eq_list T cols

/- non-vacuity: two columns with a null, repeats within and across columns -/
example : pdextractItems [[some "ab".toList, none, some "ab".toList], [some "ab".toList, some "c".toList]] =
    [(some "ab".toList, 1), (some "ab".toList, 1), (some "c".toList, 1)] := by decide

end TddaVerif.Props.C14
