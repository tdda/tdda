/-
C02 — verification verdicts equal the documented meaning of each constraint.
The property theorems, each forwarding to its proof in Lemmas/Verify.lean (the verdicts) or Lemmas/Report.lean (the
report marks).
-/
import TddaVerif.Lemmas.Report
import TddaVerif.Lemmas.Verify

namespace TddaVerif.Props.C02
open TddaVerif.Constraints

/-- **Main theorem.** On a well-typed column, for every constraint kind, every precision, every
    ε ≥ 0, strict or sloppy typing, in verification or detection mode, the verdict is `true`
    exactly when the documented meaning holds. -/
theorem verify_eq_spec (cfg : Cfg) (heps : 0 ≤ cfg.epsilon) (c : Column) (hwf : c.WF = true)
    (detect : Bool) (k : Constraint) : verifyOn cfg c detect k = true ↔ Sat cfg c k :=
  Lemmas.verify_eq_spec cfg heps c hwf detect k

/-- the verdict does not depend on whether detection was requested -/
theorem verify_flag_irrelevant (cfg : Cfg) (heps : 0 ≤ cfg.epsilon) (c : Column) (hwf : c.WF = true)
    (k : Constraint) : verifyOn cfg c true k = verifyOn cfg c false k :=
  Lemmas.verify_flag_irrelevant cfg heps c hwf k

/-- a constraint on a field the data lacks is reported failed -/
theorem missing_field_fails (cfg : Cfg) (frame : List Column) (f : List Char) (detect : Bool)
    (k : Constraint) (h : findCol frame f = none) : verifyOne cfg frame f detect k = false :=
  Lemmas.missing_field_fails cfg frame f detect k h

/-- a null-valued constraint on an existing field is reported satisfied -/
theorem null_value_passes (cfg : Cfg) (c : Column) (detect : Bool) (k : Constraint)
    (h : isNullC k = true) : verifyOn cfg c detect k = true :=
  Lemmas.null_value_passes cfg c detect k h

/-- fuzzy lower bound, in closed form: `fuzz_down(b, ε) = b − ε·|b|` -/
theorem fuzzDown_eq (y eps : Rat) : fuzzDown y eps = y - eps * absRat y := Lemmas.fuzzDown_eq y eps
theorem fuzzUp_eq (y eps : Rat) : fuzzUp y eps = y + eps * absRat y := Lemmas.fuzzUp_eq y eps

/-- the totals are the counts of the verdicts, per field and overall -/
theorem totals_exact (cfg : Cfg) (frame : List Column) (detect : Bool)
    (cs : List (List Char × List Constraint)) :
    let v := verifyAll cfg frame detect cs
    (∀ f ∈ v.fields, f.passes = countTrue f.verdicts ∧ f.failures = countFalse f.verdicts ∧
                      f.passes + f.failures = f.verdicts.length) ∧
    v.passes = countTrue (v.fields.map (·.verdicts)).flatten ∧
    v.failures = countFalse (v.fields.map (·.verdicts)).flatten ∧
    v.fields.map (·.field) = cs.map (·.1) ∧
    v.fields.map (·.verdicts.length) = cs.map (·.2.length) :=
  Lemmas.totals_exact cfg frame detect cs

/-- the verdict lists are the verifier applied to each constraint, field by field, in order -/
theorem verdicts_eq (cfg : Cfg) (frame : List Column) (detect : Bool)
    (cs : List (List Char × List Constraint)) :
    (verifyAll cfg frame detect cs).fields.map (·.verdicts)
      = cs.map (fun fc => fc.2.map (verifyOne cfg frame fc.1 detect)) :=
  Lemmas.verdicts_eq cfg frame detect cs

/-- adding a null-valued constraint to an existing field adds exactly one pass and changes no
    other verdict -/
theorem null_constraint_inert (cfg : Cfg) (frame : List Column) (detect : Bool)
    (pre post : List (List Char × List Constraint)) (f : List Char) (ks : List Constraint)
    (k : Constraint) (hk : isNullC k = true) (hf : (findCol frame f).isSome = true) :
    let v := verifyAll cfg frame detect (pre ++ (f, ks) :: post)
    let v' := verifyAll cfg frame detect (pre ++ (f, ks ++ [k]) :: post)
    v'.passes = v.passes + 1 ∧ v'.failures = v.failures ∧ verifyOne cfg frame f detect k = true :=
  Lemmas.null_constraint_inert cfg frame detect pre post f ks k hk hf

/- non-vacuity: at ε = 1/2 the fuzzy min −6 admits −8, the fuzzy max 2 refuses 4 -/
example : verifyOn { epsilon := 1/2, strict := false, rx := fun _ _ => false }
    { name := ['a'], ftype := .real, cells := [some (.r (-8)), some (.r 4), none] } false
    (.min (some (.r (-6))) .fuzzy) = true := by decide +kernel
example : verifyOn { epsilon := 1/2, strict := false, rx := fun _ _ => false }
    { name := ['a'], ftype := .real, cells := [some (.r (-8)), some (.r 4), none] } false
    (.max (some (.r 2)) .fuzzy) = false := by decide +kernel

/- The printed report (Verification.__str__, tcn): each constraint is *reported* as satisfied exactly when its verdict
   says so. -/
open TddaVerif.Report in
/-- the mark printed for a constraint determines its verdict (satisfied / failed / no verifier), for any mark set whose
    three texts differ -/
theorem mark_determines_verdict (m : MarkSet) (hd : ReportLemmas.Distinct m) (a b : Option Bool)
    (h : m.text (tcn a) = m.text (tcn b)) : a = b := ReportLemmas.mark_determines_verdict m hd a b h

open TddaVerif.Report in
/-- report mode `all` shows every field; `fields` and `records` exactly the fields with failures -/
theorem report_shows (fs : List Field) (f : Field) :
    shown .all fs = fs ∧ (f ∈ shown .fields fs ↔ f ∈ fs ∧ f.failures > 0) ∧ shown .records fs = shown .fields fs :=
  ⟨ReportLemmas.shown_all fs, ReportLemmas.mem_shown_fields fs f, ReportLemmas.shown_records fs⟩

/-- **Tie**: the two mark sets in the source today (Generated/Report.lean is rewritten from base.py on every run) have
    pairwise different texts, so `mark_determines_verdict` applies to both -/
theorem tie_marks_distinct :
    ReportLemmas.Distinct (ReportLemmas.markSetOf TddaVerif.Generated.Report.marks) ∧
    ReportLemmas.Distinct (ReportLemmas.markSetOf TddaVerif.Generated.Report.safeMarks) := ReportLemmas.tie_marks_distinct

end TddaVerif.Props.C02
