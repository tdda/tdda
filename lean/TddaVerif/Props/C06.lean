/-
C06 — detection flags exactly the violating records and agrees with verification.
The property theorems, each forwarding to its proof in Lemmas/Detect.lean or Lemmas/DetectOut.lean (the rows
written).  `single`, `ftCoarse`, `RecordWise` are `single'`, `ftCoarse'`, `RecordWise'` of Lemmas/Detect.lean under
the names the statements use.
-/
import TddaVerif.Lemmas.Detect
import TddaVerif.Lemmas.DetectOut

namespace TddaVerif.Props.C06
open TddaVerif.Constraints TddaVerif.Props.C02

abbrev single := @single'
abbrev ftCoarse := @ftCoarse'
abbrev RecordWise := @RecordWise'

/-- constraint-level verdicts under detection are those of plain verification -/
theorem detect_verdicts_eq_verify (cfg : Cfg) (heps : 0 ≤ cfg.epsilon) (c : Column) (hwf : c.WF = true)
    (k : Constraint) : verifyOn cfg c true k = verifyOn cfg c false k :=
  Lemmas.detect_verdicts_eq_verify cfg heps c hwf k

/-- every flag column has one entry per record -/
theorem flags_length (cfg : Cfg) (c : Column) (k : Constraint) (fl : List (Option Bool))
    (h : detectFlags cfg c k = some fl) : fl.length = c.cells.length :=
  Lemmas.flags_length cfg c k fl h

/-- **record-wise kinds**: a null record is flagged null; a non-null record is flagged `true`
    exactly when it meets the documented meaning of the constraint on its own -/
theorem flag_false_iff_violates (cfg : Cfg) (heps : 0 ≤ cfg.epsilon) (c : Column) (hwf : c.WF = true)
    (k : Constraint) (hk : RecordWise c k) (fl : List (Option Bool))
    (h : detectFlags cfg c k = some fl) (i : Nat) (hi : i < c.cells.length) :
    (c.cells[i]? = some none → fl[i]? = some none) ∧
    (∀ v, c.cells[i]? = some (some v) → ∃ b, fl[i]? = some (some b) ∧ (b = true ↔ Sat cfg (single c v) k)) :=
  Lemmas.flag_false_iff_violates cfg heps c hwf k hk fl h i hi

/-- a type failure (and a bound of the wrong type for the field) flags every record -/
theorem type_failure_flags_all (cfg : Cfg) (c : Column) (ts : Option (List FType)) :
    detectFlags cfg c (.type ts) = some (c.cells.map (fun _ => some false)) :=
  Lemmas.type_failure_flags_all cfg c ts

/-- a min or max bound whose coarse type is not that of the column flags every record -/
theorem wrong_typed_bound_flags_all (cfg : Cfg) (c : Column) (b : Val) (p : Precision)
    (h : ftCoarse c.ftype ≠ some b.coarse) :
    detectFlags cfg c (.min (some b) p) = some (c.cells.map (fun _ => some false)) ∧
    detectFlags cfg c (.max (some b) p) = some (c.cells.map (fun _ => some false)) :=
  Lemmas.wrong_typed_bound_flags_all cfg c b p h

/-- a null-count failure flags exactly the null records -/
theorem maxNulls_flags_nulls (cfg : Cfg) (c : Column) (n : Int) :
    detectFlags cfg c (.maxNulls (some n)) = some (c.cells.map (fun x => some x.isSome)) :=
  Lemmas.maxNulls_flags_nulls cfg c n

/-- a duplicates failure flags every member of a duplicated group, and no null record -/
theorem noDuplicates_flags (cfg : Cfg) (c : Column) (fl : List (Option Bool))
    (h : detectFlags cfg c (.noDuplicates (some true)) = some fl) (i : Nat) (hi : i < c.cells.length) :
    (c.cells[i]? = some none → fl[i]? = some (some true)) ∧
    (∀ v, c.cells[i]? = some (some v) →
        fl[i]? = some (some (decide ((c.nonNull.filter (fun w => w.eqv v)).length ≤ 1)))) :=
  Lemmas.noDuplicates_flags cfg c fl h i hi

/-- each record's failure count is its number of false flags -/
theorem nFailures_exact (cols : List (List (Option Bool))) (n : Nat) (i : Nat) (hi : i < n) :
    (nFailures cols n)[i]? = some ((cols.filter (fun col => col.getD i none == some false)).length) :=
  Lemmas.nFailures_exact cols n i hi

/-- the passing and failing record counts partition the rows, and the failing ones are exactly the
    records with at least one false flag -/
theorem counts_partition (cols : List (List (Option Bool))) (n : Nat) :
    nPassing (nFailures cols n) + nFailing (nFailures cols n) = n ∧
    nFailing (nFailures cols n) =
      ((List.range n).filter (fun i => cols.any (fun col => col.getD i none == some false))).length :=
  Lemmas.counts_partition cols n

/- non-vacuity: a passing, a null and a failing record -/
example : detectFlags { epsilon := 0, strict := false, rx := fun _ _ => false }
    { name := ['a'], ftype := .int, cells := [some (.i 3), none, some (.i 9)] } (.max (some (.i 5)) .closed)
    = some [some true, none, some false] := by decide +kernel

open TddaVerif.DetectOut in
/-- every row written carries, as its row number, the position (from 1) of its record in the input, and that record's count -/
theorem written_rows_are_positions (nf : List Nat) (wa : Bool) (r v : Nat) (h : (r, v) ∈ written nf wa) :
    1 ≤ r ∧ r ≤ nf.length ∧ nf[r - 1]? = some v := DetectOut.Lemmas.written_rows_are_positions nf wa r v h

open TddaVerif.DetectOut in
/-- without write_all only failing records are written -/
theorem written_failing (nf : List Nat) (r v : Nat) (h : (r, v) ∈ written nf false) : v > 0 :=
  DetectOut.Lemmas.written_failing nf r v h

open TddaVerif.DetectOut in
/-- and every failing record (every record with write_all) is written, under its own position -/
theorem failing_written (nf : List Nat) (wa : Bool) (i v : Nat) (hv : nf[i]? = some v) (h : wa = true ∨ v > 0) :
    (i + 1, v) ∈ written nf wa := DetectOut.Lemmas.failing_written nf wa i v hv h

open TddaVerif.DetectOut in
/-- in the order of the input, no record twice -/
theorem written_sorted (nf : List Nat) (wa : Bool) : (written nf wa).Pairwise (fun a b => a.1 < b.1) :=
  DetectOut.Lemmas.written_sorted nf wa

open TddaVerif.DetectOut in
example : written [0, 2, 0, 1] false = [(2, 2), (4, 1)] := by decide

end TddaVerif.Props.C06
