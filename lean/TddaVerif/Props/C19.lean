/-
C19 — tagged runs execute exactly the tagged tests; listing runs none.  For unittest: the argv scanner and the test
loader.  For pytest (`pytest_*`): the collection filter referencepytest.tagged (--tagged / --istagged) on what it reads
of a collected test, the class's tag as Python resolves it through inheritance.
The proofs are in TddaVerif/Lemmas/, except where a theorem is a line or two from another one here.
-/
import TddaVerif.Model.RefTestCase
import TddaVerif.Props.C19Spec
import TddaVerif.Lemmas.Argv
import TddaVerif.Lemmas.Loader
import TddaVerif.Model.RefPytest
import TddaVerif.Lemmas.RefPytest

namespace TddaVerif.Props.C19
open TddaVerif.Py TddaVerif.RefTestCase

/-- **argv.** On every well-formed command line the scanner returns exactly its meaning: the tdda
    flags are recognised wherever they stand (in clusters with unittest letters, before or after
    class names and long options), each is removed, everything else keeps its place, and the kinds
    after a write option are registered. -/
theorem parseArgv_spec (c : Cmd) (h : c.WF = true) : parseArgv c.render = .ok c.meaning :=
  Lemmas.parseArgv_spec c h

/-- a write option with no kind after it is rejected -/
theorem write_needs_kinds (prog : Arg) (toks : List Tok) (s : Nat)
    (h : (Cmd.mk prog toks none).WF = true) :
    parseArgv (prog :: toks.map Tok.render ++ [writeSpelling s]) = .error .writeNeedsParams :=
  Lemmas.write_needs_kinds prog toks s h

/-- **selection under the tagged option**: the tests selected from class `i` are exactly the visible
    test methods that carry the tag themselves or through their class -/
theorem tagged_selects_exactly (cs : List TestClass) (hac : Acyclic cs)
    (hd : ∀ c ∈ cs, (c.own.map (·.1)).Nodup) (i : Nat) (hi : i < cs.length)
    (m : Arg) : m ∈ testNames cs i true ↔ CarriesTag cs i m :=
  Lemmas.tagged_selects_exactly cs hac hd i hi m

/-- without the option every visible test is selected -/
theorem untagged_selects_all (cs : List TestClass) (hac : Acyclic cs) (i : Nat) (hi : i < cs.length)
    (m : Arg) : m ∈ testNames cs i false ↔ ∃ tg, Visible cs i m tg :=
  Lemmas.untagged_selects_all cs hac i hi m

/-- each selected test is selected once (method names within a class body are distinct) -/
theorem selected_once (cs : List TestClass) (hac : Acyclic cs)
    (hd : ∀ c ∈ cs, (c.own.map (·.1)).Nodup) (i : Nat) (hi : i < cs.length) (tagged : Bool) :
    (testNames cs i tagged).Nodup :=
  Lemmas.selected_once cs hac hd i hi tagged

/-- with the list-tagged option no test is selected, and exactly the classes that contain a test
    carrying the tag are listed -/
theorem check_runs_none (cs : List TestClass) (tagged : Bool) : selectTests cs tagged true = [] := by
  simp [selectTests]

theorem check_lists_exactly (cs : List TestClass) (hac : Acyclic cs)
    (hd : ∀ c ∈ cs, (c.own.map (·.1)).Nodup) (n : Arg) :
    n ∈ listedClasses cs true ↔
      ∃ i c, cs[i]? = some c ∧ c.name = n ∧ ∃ m, CarriesTag cs i m :=
  Lemmas.check_lists_exactly cs hac hd n

/-- the run list is the per-class selections, in class order -/
theorem selectTests_mem (cs : List TestClass) (tagged : Bool) (n m : Arg) :
    (n, m) ∈ selectTests cs tagged false ↔
      ∃ i c, cs[i]? = some c ∧ c.name = n ∧ m ∈ testNames cs i tagged :=
  Lemmas.selectTests_mem cs tagged n m

example : (Cmd.mk "p".toList [.cluster ['v', '1'], .other "TestA".toList, .cluster ['0'], .tagged]
            (some (2, ["a,b".toList]))).WF = true := by decide
example : parseArgv ["p".toList, "-v1".toList, "TestA".toList, "-0".toList, "--tagged".toList,
                     "--write".toList, "a,b".toList]
    = .ok { argv := ["p".toList, "-v".toList, "TestA".toList], tagged := true, check := true, quiet := false,
            regen := [some "a".toList, some "b".toList] } := by simp only [String.reduceToList]; rfl

open TddaVerif.RefPytest in
/-- without either option the collection is left as it is -/
theorem pytest_no_option_untouched (items : List Item) : filterItems false false items = (items, []) := by
  simp [filterItems]

open TddaVerif.RefPytest in
/-- under the tagged option exactly the tagged items stay, in their order, and nothing is printed -/
theorem pytest_tagged_selects_exactly (items : List Item) :
    filterItems true false items = (items.filter (·.tagged), []) :=
  PytestLemmas.tagged_selects_exactly items

open TddaVerif.RefPytest in
/-- an item stays iff it is a collected item that carries the tag itself or through its class -/
theorem pytest_tagged_mem_iff (items : List Item) (i : Item) :
    i ∈ (filterItems true false items).1 ↔ i ∈ items ∧ (i.fnTagged = true ∨ (i.cls.isSome = true ∧ i.clsTagged = true)) := by
  rw [pytest_tagged_selects_exactly, List.mem_filter, Item.tagged, Bool.or_eq_true, Bool.and_eq_true, or_comm]

open TddaVerif.RefPytest in
/-- each once -/
theorem pytest_tagged_nodup (items : List Item) (h : items.Nodup) : (filterItems true false items).1.Nodup := by
  rw [pytest_tagged_selects_exactly]
  exact h.filter _

open TddaVerif.RefPytest in
/-- the list-tagged option leaves no test to run, with or without the tagged option -/
theorem pytest_check_runs_none (run : Bool) (items : List Item) : (filterItems run true items).1 = [] :=
  PytestLemmas.check_runs_none run items

open TddaVerif.RefPytest in
/-- the list-tagged option names exactly the classes that contain a tagged test, and the tagged module-level functions -/
theorem pytest_check_lists_exactly (run : Bool) (items : List Item) (n : Name) :
    n ∈ (filterItems run true items).2 ↔
      (∃ i ∈ items, i.tagged = true ∧ i.cls = some n) ∨ (∃ i ∈ items, i.tagged = true ∧ i.cls = none ∧ i.name = n) :=
  PytestLemmas.check_lists_exactly run items n

open TddaVerif.RefPytest in
/-- a class is named once however many tagged tests it has -/
theorem pytest_check_lists_classes_once (run : Bool) (items : List Item) (hm : ∀ i ∈ items, i.cls.isSome = true) :
    (filterItems run true items).2.Nodup := by
  rw [PytestLemmas.filterItems_printed]
  exact PytestLemmas.printed_nodup items hm []

end TddaVerif.Props.C19
