/-
C04 — text comparison passes exactly when the texts agree modulo the declared exclusions.

The theorems forward to Lemmas/CheckStrings.lean and Lemmas/Encoding.lean; the constants of the source (`encConsts`) are
defined here, and `tie_guess_encoding` is proved here.
`pat` is Python's `re.match` on the anchored ignore-patterns (a parameter).
-/
import TddaVerif.Model.CheckStrings
import TddaVerif.Props.C04Spec
import TddaVerif.Lemmas.CheckStrings
import TddaVerif.Lemmas.Encoding
import TddaVerif.Generated.Utils

namespace TddaVerif.Props.C04
open TddaVerif.Py TddaVerif.CheckStrings

/-- the code's pattern check is sound for `PatEquiv`, whatever the fuel -/
theorem checkPatterns_sound (npats : Nat) (pat : PatFn) (fuel : Nat) (a e : Line)
    (h : checkPatterns npats pat fuel a e = true) : PatEquiv npats pat a e :=
  Lemmas.checkPatterns_sound npats pat fuel a e h

/-- … and complete when the recursion is well-founded (`Shrinks`), with the fuel the model uses -/
theorem checkPatterns_complete (npats : Nat) (pat : PatFn) (hs : Shrinks npats pat) (a e : Line)
    (h : PatEquiv npats pat a e) : checkPatterns npats pat (patFuel a e) a e = true :=
  Lemmas.checkPatterns_complete npats pat hs a e h

/-- hence the executable excuse test decides `LineOK` -/
theorem lineOKb_iff (o : Opts) (pat : PatFn) (hs : Shrinks o.npats pat) (a e : Line) :
    lineOKb o pat a e = true ↔ LineOK o pat a e :=
  Lemmas.lineOKb_iff o pat hs a e

/-- **Main theorem.** The comparison passes exactly when the texts agree by the rule. -/
theorem check_pass_iff (o : Opts) (pat : PatFn) (a e : List Line) :
    (checkStrings o pat a e).failures = 0 ↔ Agree o pat a e :=
  Lemmas.check_pass_iff o pat a e

/-- identical content passes under every option combination -/
theorem identical_passes (o : Opts) (pat : PatFn) (a : List Line) :
    (checkStrings o pat a a).failures = 0 :=
  Lemmas.identical_passes o pat a

/-- different numbers of lines after removal always fail -/
theorem different_length_fails (o : Opts) (pat : PatFn) (a e : List Line)
    (h : (kept o a).length ≠ (kept o e).length) : (checkStrings o pat a e).failures = 1 :=
  Lemmas.different_length_fails o pat a e h

/-- any difference not excused by an option fails (no permutation allowance) -/
theorem unexcused_difference_fails (o : Opts) (pat : PatFn) (a e : List Line)
    (hperm : o.maxPerm = 0) (h : badPairs o pat a e ≠ []) : (checkStrings o pat a e).failures = 1 :=
  Lemmas.unexcused_difference_fails o pat a e hperm h

/-- `sorted(x) == sorted(y)` is "x is a permutation of y" -/
theorem sorted_eq_iff_perm (x y : List Line) : sortLines x = sortLines y ↔ x.Perm y :=
  Lemmas.sorted_eq_iff_perm x y

/- non-vacuity -/
example : (checkStrings {} (fun _ _ => none) ["ab".toList, "c".toList] ["ab".toList, "d".toList]).failures = 1 := by
  decide
example : (checkStrings { maxPerm := 2 } (fun _ _ => none) ["x".toList, "y".toList] ["y".toList, "x".toList]).failures = 0 := by
  decide
example : (checkStrings { removeLines := ["#".toList] } (fun _ _ => none)
    ["a".toList, "# c".toList] ["a".toList]).failures = 0 := by decide

open TddaVerif.Encoding in
/-- the constants of the source -/
def encConsts : Consts :=
  { specialExt := TddaVerif.Generated.Utils.specialExt, specialEnc := TddaVerif.Generated.Utils.specialEnc,
    dflt := TddaVerif.Generated.Utils.defaultEnc }

open TddaVerif.Encoding in
/-- with no encoding given, every file but the one special extension is read in the default encoding -/
theorem default_encoding (path : TddaVerif.Py.Line) (h : shortExt path ≠ encConsts.specialExt) :
    getEncoding encConsts path none = encConsts.dflt := Encoding.Lemmas.default_encoding encConsts path h

open TddaVerif.Encoding in
/-- an encoding that is given is used whatever the files are called (so both sides of a comparison are read alike) -/
theorem explicit_encoding_wins (p q : TddaVerif.Py.Line) (e : Enc) :
    getEncoding encConsts p (some e) = getEncoding encConsts q (some e) :=
  Encoding.Lemmas.explicit_encoding_wins encConsts p q e

/-- **tie.** guess_encoding's constants and the three helper bodies are the ones the model translates: plain UTF-8 (no
    byte-order-mark variant) unless the file is a PDF -/
theorem tie_guess_encoding :
    TddaVerif.Generated.Utils.specialExt = "pdf".toList ∧ TddaVerif.Generated.Utils.specialEnc = "iso-8859-1".toList ∧
    TddaVerif.Generated.Utils.defaultEnc = "utf-8".toList ∧
    TddaVerif.Generated.Utils.getShortExtSrc = "return os.path.splitext(path)[1].lower()[1:] if path else ''".toList ∧
    TddaVerif.Generated.Utils.normalizeEncodingSrc = "lc = encoding.lower(); return 'utf-8' if lc == 'utf8' else lc".toList ∧
    TddaVerif.Generated.Utils.getEncodingSrc =
      "if encoding is None:\n    return guess_encoding(path)\nelse:\n    return normalize_encoding(encoding)".toList :=
  -- a string literal is `String.ofList` of its characters; `toList` evaluated on it would decode UTF-8 instead
  ⟨String.toList_ofList.symm, String.toList_ofList.symm, String.toList_ofList.symm, String.toList_ofList.symm,
    String.toList_ofList.symm, String.toList_ofList.symm⟩

open TddaVerif.Encoding in
example : getEncoding encConsts "ref/Report.PDF".toList none = "iso-8859-1".toList ∧
    getEncoding encConsts "ref/out.csv".toList none = "utf-8".toList ∧
    getEncoding encConsts "x.pdf".toList (some "UTF8".toList) = "utf-8".toList := by
  simp only [String.reduceToList]; decide

end TddaVerif.Props.C04
