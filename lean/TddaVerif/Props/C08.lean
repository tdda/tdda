/-
C08 — database discovery is sound and database verification notices violating rows.

The discovery and verification logic is the shared tdda/constraints/baseconstraints.py that Model/Constraints.lean
models; the database calculator supplies the aggregates by SQL. What is specific to the database path is
 (a) the SQL text it builds (Model/Sql.lean): proved to read back, through a SQL tokenizer, as exactly the column
     name and the expressions it was built from, whatever characters they contain;
 (b) the aggregates themselves (MIN, MAX, COUNT, LENGTH, DISTINCT evaluated by SQLite): tied by running discovery
     and verification of generated SQLite tables against the model (not proved: SQLite is not modelled).
On top of the model: closure (C01) and "a violating row is noticed" for each kind of perturbation.
"The quantifier" in the comment of `tie_types` is the field of that name of property C08 in properties.jsonl: what the
property ranges over.
-/
import TddaVerif.Props.C01
import TddaVerif.Lemmas.Sql

namespace TddaVerif.Props.C08
open TddaVerif.Sql TddaVerif.Constraints TddaVerif.Props.C02

/-- a text quoted with `q` (every `q` inside doubled) reads back as that text and what follows it, provided what
    follows does not start with `q` -/
theorem lex_quote (q : Char) (s rest : Text) (hrest : rest.head? ≠ some q) :
    lexQuoted q (quote q s ++ rest) = some (s, rest) := Lemmas.lex_quote q s rest hrest

/-- a quoted column name reads back as the name -/
theorem ident_roundtrip (name rest : Text) (hrest : rest.head? ≠ some '"') :
    lexQuoted '"' (quoteIdent name ++ rest) = some (name, rest) := Lemmas.lex_quote '"' name rest hrest

/-- a string literal reads back as the string -/
theorem literal_roundtrip (s rest : Text) (hrest : rest.head? ≠ some '\'') :
    lexQuoted '\'' (stringLiteral s ++ rest) = some (s, rest) := Lemmas.lex_quote '\'' s rest hrest

/-- quoting loses nothing: texts with the same quoted form are the same -/
theorem quote_injective (q : Char) (s t : Text) (h : quote q s = quote q t) : s = t := Lemmas.quote_injective q s t h

/-- the REGEXP predicate reads back as exactly the given expressions on the given column -/
theorem rex_predicate_roundtrip (name : Text) (rs : List Text) (hne : rs ≠ []) (fuel : Nat) (hf : rs.length ≤ fuel) :
    parseDisj fuel (rexDisj name rs ++ ")".toList) = some (rs.map (fun r => (name, r)), ")".toList) := by
  induction rs generalizing fuel with
  | nil => exact absurd rfl hne
  | cons r rs ih =>
    cases fuel with
    | zero => simp at hf
    | succ fuel =>
      cases rs with
      | nil =>
        have e : rexDisj name [r] = rexTerm name r := rfl
        have hd : dropPrefix " OR ".toList ")".toList = none := by decide
        simp only [e, parseDisj, Lemmas.parse_rexTerm, hd, List.map]
      | cons r2 rs =>
        have e : rexDisj name (r :: r2 :: rs) ++ ")".toList
            = rexTerm name r ++ (" OR ".toList ++ (rexDisj name (r2 :: rs) ++ ")".toList)) := by
          simp only [rexDisj, List.map, intercalate, List.append_assoc]
        have ih' := ih (by simp) fuel (by simpa using hf)
        simp only [e, parseDisj, Lemmas.parse_rexTerm, Lemmas.dropPrefix_append, ih', Option.map_some, List.map]

/-- **Tie**: `quoteIdent` is `DatabaseHandler.quoted` as drivers.py has it today, its format applied to the name
    after its replacement (Generated/Sql.lean is rewritten from the source on every run) -/
theorem tie_ident (name : Text) :
    quoteIdent name = fmt Generated.Sql.identFormat [Py.replace Generated.Sql.identOld Generated.Sql.identNew name] :=
  Lemmas.tie_ident name

/-- **Tie**: `stringLiteral` is `string_literal` of drivers.py in the same way -/
theorem tie_literal (s : Text) :
    stringLiteral s = fmt Generated.Sql.litFormat [Py.replace Generated.Sql.litOld Generated.Sql.litNew s] :=
  Lemmas.tie_literal s

/-- **Tie**: a REGEXP term is the term format of get_database_rex_match applied to the quoted column and the literal -/
theorem tie_term (name r : Text) :
    rexTerm name r = fmt Generated.Sql.rexTermFormat [quoteIdent name, stringLiteral r] := Lemmas.tie_term name r

/-- **Tie**: the statement is the statement format of get_database_rex_match applied to the table, the quoted column
    and the terms joined by its joiner -/
theorem tie_statement (table name : Text) (rs : List Text) :
    rexSql table name rs = fmt Generated.Sql.rexStatementFormat
      [table, quoteIdent name, intercalate Generated.Sql.rexJoiner (rs.map (rexTerm name))] :=
  Lemmas.tie_statement table name rs

/-- the column types of the quantifier map to the tdda types the model uses -/
theorem tie_types :
    lookup Generated.Sql.typeMap "integer".toList = some "int".toList ∧
    lookup Generated.Sql.typeMap "real".toList = some "real".toList ∧
    lookup Generated.Sql.typeMap "text".toList = some "string".toList ∧
    lookup Generated.Sql.typeMap "varchar".toList = some "string".toList ∧
    lookup Generated.Sql.typeMap "boolean".toList = some "bool".toList ∧
    lookup Generated.Sql.typeMap "datetime".toList = some "date".toList := by simp only [String.reduceToList]; decide

/-- constraints discovered from a table column verify against that column (C01's closure; the database
    verifier's defaults are ε = 0 and strict typing, but it holds for every configuration) -/
theorem discovered_constraints_verify (cfg : Cfg) (heps : 0 ≤ cfg.epsilon) (incRex : Bool) (rexOf : List Val → List Nat)
    (c : Column) (hwf : c.WF = true) (hrex : C01.RexSound cfg rexOf c) (ks : List Constraint)
    (h : discoverField incRex rexOf c c.cells.length = .ok (some ks)) (detect : Bool) :
    ∀ k ∈ ks, verifyOn cfg c detect k = true :=
  C01.closure cfg heps incRex rexOf c hwf hrex ks h detect

/-- the column with one more row -/
abbrev push := @Lemmas.push

/-- a column with a new row that does not meet the documented meaning of a constraint fails the verification of that
    constraint; the theorems below name such a row for each kind -/
theorem violating_row_detected (cfg : Cfg) (heps : 0 ≤ cfg.epsilon) (c : Column) (cell : Option Val)
    (hwf : (push c cell).WF = true) (detect : Bool) (k : Constraint) (h : ¬ Sat cfg (push c cell) k) :
    verifyOn cfg (push c cell) detect k = false := Lemmas.violating_row_detected cfg heps c cell hwf detect k h

/-- with ε = 0, the database verifier's default, a new value below the bound fails min, whatever the precision -/
theorem below_min_detected (cfg : Cfg) (heps : cfg.epsilon = 0) (c : Column) (v b : Val) (p : Precision)
    (hwf : (push c (some v)).WF = true) (detect : Bool) (hlt : v.lt b = true) :
    verifyOn cfg (push c (some v)) detect (.min (some b) p) = false :=
  Lemmas.below_min_detected cfg heps c v b p hwf detect hlt

/-- and a new value above the bound fails max -/
theorem above_max_detected (cfg : Cfg) (heps : cfg.epsilon = 0) (c : Column) (v b : Val) (p : Precision)
    (hwf : (push c (some v)).WF = true) (detect : Bool) (hlt : b.lt v = true) :
    verifyOn cfg (push c (some v)) detect (.max (some b) p) = false :=
  Lemmas.above_max_detected cfg heps c v b p hwf detect hlt

/-- a new string shorter than min_length fails it -/
theorem shorter_string_detected (cfg : Cfg) (heps : 0 ≤ cfg.epsilon) (c : Column) (x : List Char) (n : Int)
    (hwf : (push c (some (.s x))).WF = true) (detect : Bool) (h : (x.length : Int) < n) :
    verifyOn cfg (push c (some (.s x))) detect (.minLength (some n)) = false :=
  Lemmas.shorter_string_detected cfg heps c x n hwf detect h

/-- a new string longer than max_length fails it -/
theorem longer_string_detected (cfg : Cfg) (heps : 0 ≤ cfg.epsilon) (c : Column) (x : List Char) (n : Int)
    (hwf : (push c (some (.s x))).WF = true) (detect : Bool) (h : n < (x.length : Int)) :
    verifyOn cfg (push c (some (.s x))) detect (.maxLength (some n)) = false :=
  Lemmas.longer_string_detected cfg heps c x n hwf detect h

/-- a new value equal to none of the allowed values fails allowed_values -/
theorem new_category_detected (cfg : Cfg) (heps : 0 ≤ cfg.epsilon) (c : Column) (v : Val) (vs : List Val)
    (hwf : (push c (some v)).WF = true) (detect : Bool) (h : ∀ a ∈ vs, a.eqv v = false) :
    verifyOn cfg (push c (some v)) detect (.allowedValues (some vs)) = false :=
  Lemmas.new_category_detected cfg heps c v vs hwf detect h

/-- a new value equal to one the column holds fails no_duplicates -/
theorem duplicate_detected (cfg : Cfg) (heps : 0 ≤ cfg.epsilon) (c : Column) (v w : Val)
    (hwf : (push c (some v)).WF = true) (detect : Bool) (hw : w ∈ c.nonNull) (h : w.eqv v = true) :
    verifyOn cfg (push c (some v)) detect (.noDuplicates (some true)) = false :=
  Lemmas.duplicate_detected cfg heps c v w hwf detect hw h

/-- discovery writes max_nulls = the number of nulls; one more null fails it -/
theorem extra_null_detected (cfg : Cfg) (heps : 0 ≤ cfg.epsilon) (c : Column) (n : Int)
    (hwf : (push c none).WF = true) (detect : Bool) (h : (nullCells c : Int) = n) :
    verifyOn cfg (push c none) detect (.maxNulls (some n)) = false :=
  Lemmas.extra_null_detected cfg heps c n hwf detect h

/-- a new string that none of the expressions matches fails rex -/
theorem unmatched_string_detected (cfg : Cfg) (heps : 0 ≤ cfg.epsilon) (c : Column) (x : List Char) (rs : List Nat)
    (hwf : (push c (some (.s x))).WF = true) (detect : Bool) (h : ∀ r ∈ rs, cfg.rx r x = false) :
    verifyOn cfg (push c (some (.s x))) detect (.rex (some rs)) = false :=
  Lemmas.unmatched_string_detected cfg heps c x rs hwf detect h

/-- a new number outside the sign class fails sign -/
theorem wrong_sign_detected (cfg : Cfg) (heps : 0 ≤ cfg.epsilon) (c : Column) (v : Val) (q : Rat) (s : Sign)
    (hwf : (push c (some v)).WF = true) (detect : Bool) (hq : v.num = some q) (h : ¬ SignHolds s q) :
    verifyOn cfg (push c (some v)) detect (.sign (some s)) = false :=
  Lemmas.wrong_sign_detected cfg heps c v q s hwf detect hq h

/- non-vacuity: a name and an expression full of quotes -/
example : lexQuoted '"' (quoteIdent "sel\"ect".toList ++ " IS NULL".toList) = some ("sel\"ect".toList, " IS NULL".toList) := by
  simp only [String.reduceToList]; decide
example : parseDisj 2 (rexDisj "a\"b".toList ["^it's$".toList, "^''$".toList] ++ ")".toList)
    = some ([("a\"b".toList, "^it's$".toList), ("a\"b".toList, "^''$".toList)], ")".toList) := by
  simp only [String.reduceToList]; decide

end TddaVerif.Props.C08
