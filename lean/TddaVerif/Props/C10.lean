/-
C10 — references are rewritten only on request, and a regenerated reference passes.
The theorems about the unittest side forward to Lemmas/Regen.lean; those about the pytest spellings (`ref_table_*`) are
proved here, from `Lemmas.regen_all_true`.
-/
import TddaVerif.Model.Regen
import TddaVerif.Props.C19Spec
import TddaVerif.Lemmas.Regen
import TddaVerif.Model.RefPytest

namespace TddaVerif.Props.C10
open TddaVerif.Py TddaVerif.RefTestCase TddaVerif.CheckStrings TddaVerif.Regen TddaVerif.RefPytest

/-- **The regeneration table over histories.** After any sequence of `set_regeneration` calls the
    decision for a kind is the value of the last call for that kind; if there was none, of the last
    call for "all kinds" (`none`); if none either, no regeneration. -/
theorem shouldRegenerate_history (ops : List (Option Arg × Bool)) (kind : Option Arg) :
    shouldRegenerate (applySets [] ops) kind =
      match (ops.reverse.find? (fun op => op.1 == kind)) with
      | some op => op.2
      | none => match (ops.reverse.find? (fun op => op.1 == none)) with
                | some op => op.2
                | none => false :=
  Lemmas.shouldRegenerate_history ops kind

/-- `--write table` cannot regenerate `graph`: with only named kinds switched on, a kind is
    regenerated iff it was named -/
theorem write_only_named (kinds : List Arg) (k : Arg) :
    shouldRegenerate (applySets [] (kinds.map (fun x => (some x, true)))) (some k) = kinds.contains k :=
  Lemmas.write_only_named kinds k

/-- the table built from a command line: a kind is regenerated iff it was named after a write option,
    or all kinds were requested (-W / --write-all / --W) -/
theorem regen_from_cmdline (c : Props.C19.Cmd) (k : Arg) :
    shouldRegenerate (applySets [] (c.meaning.regen.map (fun x => (x, true)))) (some k)
      = (c.meaning.regen.contains (some k) || c.meaning.regen.contains none) :=
  Lemmas.regen_from_cmdline c k

/-- **Normal mode is read-only**: if the kind is not selected for regeneration, the reference is
    afterwards what it was before, whatever the outcome. -/
theorem normal_mode_readonly_string (t : RegenTable) (kind : Option Arg) (o : Opts) (pat : PatFn)
    (actual : Line) (ref : Option Line) (h : shouldRegenerate t kind = false) :
    (assertString t kind o pat actual ref).ref = ref ∧
    (assertString t kind o pat actual ref).outcome ≠ .regenerated :=
  Lemmas.normal_mode_readonly_string t kind o pat actual ref h

theorem normal_mode_readonly_textfile (t : RegenTable) (kind : Option Arg) (o : Opts) (pat : PatFn)
    (actual : Line) (ref : Option Line) (h : shouldRegenerate t kind = false) :
    (assertTextFile t kind o pat actual ref).ref = ref ∧
    (assertTextFile t kind o pat actual ref).outcome ≠ .regenerated :=
  Lemmas.normal_mode_readonly_textfile t kind o pat actual ref h

theorem normal_mode_readonly_binary (t : RegenTable) (kind : Option Arg)
    (actual : List Nat) (ref : Option (List Nat)) (h : shouldRegenerate t kind = false) :
    (assertBinaryFile t kind actual ref).ref = ref ∧
    (assertBinaryFile t kind actual ref).outcome ≠ .regenerated :=
  Lemmas.normal_mode_readonly_binary t kind actual ref h

/-- reading text back through universal newlines does not change its lines -/
theorem splitlines_universal (s : Line) : splitlines (universal s) = splitlines s :=
  Lemmas.splitlines_universal s

theorem universal_idem (s : Line) : universal (universal s) = universal s :=
  Lemmas.universal_idem s

/-- **Regenerate, then check.** After an assertion regenerated its reference, the same assertion on
    the same actual in normal mode passes — for every content (CR/LF, missing final newline, unicode),
    every option record and every pattern relation. -/
theorem regenerate_then_pass_string (t t' : RegenTable) (kind : Option Arg) (o : Opts) (pat : PatFn)
    (actual : Line) (ref : Option Line)
    (h : shouldRegenerate t kind = true) (h' : shouldRegenerate t' kind = false) :
    (assertString t' kind o pat actual (assertString t kind o pat actual ref).ref).outcome = .passed :=
  Lemmas.regenerate_then_pass_string t t' kind o pat actual ref h h'

theorem regenerate_then_pass_textfile (t t' : RegenTable) (kind : Option Arg) (o : Opts) (pat : PatFn)
    (actual : Line) (ref : Option Line)
    (h : shouldRegenerate t kind = true) (h' : shouldRegenerate t' kind = false) :
    (assertTextFile t' kind o pat actual (assertTextFile t kind o pat actual ref).ref).outcome = .passed :=
  Lemmas.regenerate_then_pass_textfile t t' kind o pat actual ref h h'

theorem regenerate_then_pass_binary (t t' : RegenTable) (kind : Option Arg)
    (actual : List Nat) (ref : Option (List Nat))
    (h : shouldRegenerate t kind = true) (h' : shouldRegenerate t' kind = false) :
    (assertBinaryFile t' kind actual (assertBinaryFile t kind actual ref).ref).outcome = .passed :=
  Lemmas.regenerate_then_pass_binary t t' kind actual ref h h'

/- non-vacuity -/
example : shouldRegenerate (applySets [] [(none, true), (some "graph".toList, false)]) (some "table".toList) = true := by
  decide
example : shouldRegenerate (applySets [] [(none, true), (some "graph".toList, false)]) (some "graph".toList) = false := by
  decide
example : universal "a\r\nb\rc\n".toList = "a\nb\nc\n".toList := by simp only [String.reduceToList]; decide

theorem refTable_eq (writeAll : Bool) (write : Option (List Arg)) :
    refTable writeAll write = applySets [] ((refOps writeAll write).map (fun k => (k, true))) := by
  simp [refTable, applySets, List.foldl_map]

/-- ref(request): a kind is regenerated iff write-all was given or the kind is one of the comma-separated parts of a
    write parameter (with write-all the named kinds add nothing) -/
theorem ref_table_spec (writeAll : Bool) (write : Option (List Arg)) (k : Arg) :
    shouldRegenerate (refTable writeAll write) (some k) =
      (writeAll || (match write with
                    | none => false
                    | some ps => (ps.flatMap (fun p => splitComma p [])).contains k)) := by
  rw [refTable_eq, Lemmas.regen_all_true]
  cases writeAll <;> cases write <;> simp [refOps, List.contains_eq_mem]

/-- ... and the unnamed kind (assertions without a kind) is regenerated only by write-all -/
theorem ref_table_unnamed (writeAll : Bool) (write : Option (List Arg)) :
    shouldRegenerate (refTable writeAll write) none = writeAll := by
  rw [refTable_eq, Lemmas.regen_all_true]
  cases writeAll <;> cases write <;> simp [refOps]

/- non-vacuity -/
example : shouldRegenerate (refTable false (some ["table,graph".toList, "csv".toList])) (some "graph".toList) = true := by
  simp only [String.reduceToList]; decide
example : shouldRegenerate (refTable false (some ["table,graph".toList])) (some "csv".toList) = false := by
  simp only [String.reduceToList]; decide
example : shouldRegenerate (refTable true (some ["table".toList])) (some "csv".toList) = true := by decide

end TddaVerif.Props.C10
