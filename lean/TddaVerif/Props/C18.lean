/-
C18 — rexpy coverage figures equal true match counts and account for all examples.
The regular-expression engine is the parameter `m : α → ε → Bool`
("pattern p matches example x"); everything else is the model of
rex_coverage / coverage_matrices / matrices2incremental_coverage.
-/
import TddaVerif.Model.Coverage
import TddaVerif.Lemmas.Coverage

namespace TddaVerif.Props.C18
open TddaVerif.Coverage

/-- each expression's coverage, counting repeats, is the total frequency of the
    examples it really matches -/
theorem coverage_exact (row : List (Bool × Nat)) :
    rexCoverage1 false row = ((row.filter (·.1)).map (·.2)).sum :=
  Lemmas.coverage_exact row

/-- … and ignoring repeats it is the number of distinct examples matched -/
theorem coverage_dedup_exact (row : List (Bool × Nat)) :
    rexCoverage1 true row = (row.filter (·.1)).length :=
  Lemmas.coverage_dedup_exact row

/-- the reported number of examples is the number supplied (with / without repeats) -/
theorem n_examples_exact (freqs : List Nat) :
    nExamples false freqs = freqs.sum ∧ nExamples true freqs = freqs.length :=
  ⟨rfl, rfl⟩

/-- The greedy loop never diverges and never indexes out of range: for every
    pattern list (duplicates allowed), example list, frequencies and sort mode
    there is a result. -/
theorem incr_terminates {α ε} [DecidableEq α] (m : α → ε → Bool) (pats : List α) (idx : List Nat)
    (exs : List ε) (freqs : List Nat) (hlen : freqs.length = exs.length) (sd : Bool) :
    ∃ r, fullIncr pats idx (bsOf m pats exs) freqs sd = some r :=
  Lemmas.incr_terminates m pats idx exs freqs hlen sd

/-- The incremental counts sum to the total number of examples explained by at
    least one expression, each example being credited exactly once: with repeats
    (`incr`) it is the sum of the frequencies of the examples matched by some
    pattern, without repeats (`incrUniq`) their number. -/
theorem incr_sum_exact {α ε} [DecidableEq α] (m : α → ε → Bool) (pats : List α) (idx : List Nat)
    (exs : List ε) (freqs : List Nat) (hlen : freqs.length = exs.length)
    (hpos : ∀ f ∈ freqs, 0 < f) (sd : Bool) (r : List (α × Cov))
    (h : fullIncr pats idx (bsOf m pats exs) freqs sd = some r) :
    (r.map (·.2.incr)).sum
        = (((exs.zip freqs).filter (fun xf => pats.any (fun p => m p xf.1))).map (·.2)).sum
    ∧ (r.map (·.2.incrUniq)).sum
        = (exs.filter (fun x => pats.any (fun p => m p x))).length :=
  Lemmas.incr_sum_exact m pats idx exs freqs hlen hpos sd r h

/-- Expressions are listed in non-increasing order of newly explained examples
    (in the requested counting mode). -/
theorem incr_nonincreasing {α ε} [DecidableEq α] (m : α → ε → Bool) (pats : List α) (idx : List Nat)
    (exs : List ε) (freqs : List Nat) (hlen : freqs.length = exs.length) (sd : Bool)
    (r : List (α × Cov))
    (h : fullIncr pats idx (bsOf m pats exs) freqs sd = some r) :
    (r.map (fun kc => if sd then kc.2.incrUniq else kc.2.incr)).Pairwise (· ≥ ·) :=
  Lemmas.incr_nonincreasing m pats idx exs freqs hlen sd r h

/-- Every reported entry is one of the input patterns, reported once, and its
    `n` / `n_uniq` fields are that pattern's coverage over all the examples.
    `hpos`: frequencies are positive — `Extractor.clean` drops zero counts
    (rexpy.py:647-648); with a zero frequency `n_uniq` under-counts (the deduped
    matrix is derived from `n if match else 0`), witness below. -/
theorem incr_fields_exact {α ε} [DecidableEq α] (m : α → ε → Bool) (pats : List α) (idx : List Nat)
    (exs : List ε) (freqs : List Nat) (hlen : freqs.length = exs.length)
    (hpos : ∀ f ∈ freqs, 0 < f) (sd : Bool)
    (r : List (α × Cov))
    (h : fullIncr pats idx (bsOf m pats exs) freqs sd = some r) :
    (keys r).Nodup ∧
    ∀ kc ∈ r, kc.1 ∈ pats ∧
      kc.2.n = rexCoverage1 false ((exs.map (m kc.1)).zip freqs) ∧
      kc.2.nUniq = rexCoverage1 true ((exs.map (m kc.1)).zip freqs) :=
  Lemmas.incr_fields_exact m pats idx exs freqs hlen hpos sd r h

/-- the guard `hpos` is needed: a matched example of frequency 0 is not counted in `n_uniq` -/
example :
    fullIncr ["p"] [0] (bsOf (fun _ _ => true) ["p"] [10, 11]) [0, 1] false
      = some [("p", ⟨1, 1, 1, 1, 0⟩)]
    ∧ rexCoverage1 true (([10, 11].map ((fun _ _ => true : String → Nat → Bool) "p")).zip [0, 1]) = 2 := by
  decide

/- Non-vacuity: a concrete overlapping instance on which the hypotheses hold and
   the loop does real work (two productive iterations, one pattern dropped). -/
example :
    fullIncr ["^a+$", "^[ab]+$", "^b+$"] [0, 1, 2]
      [[true, true, false], [false, true, false], [false, true, true], [false, false, false]]
      [1, 2, 2, 5] false
    = some [("^[ab]+$", ⟨5, 3, 5, 3, 1⟩)] := by decide

example :
    fullIncr ["p", "q"] [0, 1] [[true, false], [false, true], [true, true]] [1, 4, 2] false
    = some [("q", ⟨6, 2, 6, 2, 1⟩), ("p", ⟨3, 2, 1, 1, 0⟩)] := by decide

end TddaVerif.Props.C18
