/- C03 — every example string is matched by one of the regular expressions rexpy returns. -/
import TddaVerif.Model.Rexpy
import TddaVerif.Props.C03Spec
import TddaVerif.Lemmas.RexpySound
import TddaVerif.Model.RexpySampled
import TddaVerif.Lemmas.RexpySampled
import TddaVerif.Generated.Rexpy

namespace TddaVerif.Props.C03
open TddaVerif.Py TddaVerif.Rexpy

/-- the backtracking matcher is sound: what it captures is a split of the string into accepted pieces -/
theorem matchCap_sound (T : CharTable) (E : List Char) (p : Pattern) (s : Line) (caps : List Line)
    (h : matchCap T E p s = some caps) :
    caps.flatten = s ∧ caps.length = p.length ∧
    (∀ i, i < p.length → fragAccepts T E (p.getD i ⟨.code ' ', 0, none, false⟩) (caps.getD i []) = true) ∧
    Matches T E p s :=
  Lemmas.matchCap_sound T E p s caps h

/-- … and complete: whenever some split exists it finds one (this is the `assert m is not None`) -/
theorem matchCap_complete (T : CharTable) (E : List Char) (p : Pattern) (s : Line)
    (h : Matches T E p s) : (matchCap T E p s).isSome = true :=
  Lemmas.matchCap_complete T E p s h

/-- every character is accepted by the coarse class it is given -/
theorem coarse_sound (T : CharTable) (hT : Consistent T) (E : List Char) (hE : E = normExtras E) (c : Char) :
    inCat T E (coarse T E c) c = true :=
  Lemmas.coarse_sound T hT E hE c

/-- **Batch extraction is sound**: no internal assertion fails, and every cleaned example is matched
    by one of the patterns (with the optional-whitespace wrap once any example needed stripping), for every option combination (strip, empties, variable-length fragments,
    extra letters). `hsz`: the cap on remembered strings per group is at least 1 (rexpy's default
    is 10; with 0 the single-string test of refine_fragments would misfire). -/
theorem batch_extract_sound (T : CharTable) (hT : Consistent T) (o : Opts)
    (hsz : 1 ≤ o.sizes.maxStringsInGroup) (cl : Cleaned) :
    ∃ ps E, batchExtract T o cl = some (ps, E) ∧
      ∀ s ∈ cl.strings, ∃ p ∈ ps, Matches T E (wrapWs (decide (cl.nStripped > 0)) p) s :=
  Lemmas.batch_extract_sound T hT o hsz cl

/-- **Extraction is sound**: with no pruning option, every supplied example that an explicit option
    does not discard — as supplied, before stripping — is matched by one of the returned patterns
    (with the optional-whitespace wrap when stripping changed something). -/
theorem extract_sound (T : CharTable) (hT : Consistent T) (o : Opts)
    (hsz : 1 ≤ o.sizes.maxStringsInGroup)
    (hprune : o.maxPatterns = none ∧ o.minStrings ≤ 1) (items : List (Option Line × Nat)) :
    ∃ ps E w, extract T o items = some (ps, E, w) ∧
      ∀ s ∈ keptExamples o items, ∃ p ∈ ps, Matches T E (wrapWs w p) s :=
  Lemmas.extract_sound T hT o hsz hprune items

/- With sampling (Size settings below the number of distinct examples): `extractSampled` models Extractor.__init__ /
   extract with the first sample, the loop and the pruning; `random.sample` is the parameter `pick`. -/

abbrev PickOK := @SampledLemmas.PickOK

/-- **soundness under sampling**: for every Size setting and whatever `random.sample` returns (as long as it returns
    elements of the list it is given, and at least one when asked for at least one of a non-empty list), every
    example that is not discarded is matched by one of the expressions returned -/
theorem extract_sampled_sound (T : CharTable) (hT : Consistent T) (o : Opts)
    (hsz : 1 ≤ o.sizes.maxStringsInGroup) (cfg : SampleCfg) (pick : Pick)
    (hp : PickOK pick) (hprune : o.maxPatterns = none ∧ o.minStrings ≤ 1) (items : List (Option Line × Nat))
    (ps : List Pattern) (E : List Char) (w : Bool) (h : extractSampled T o cfg pick items = some (ps, E, w)) :
    ∀ s ∈ keptExamples o items, ∃ p ∈ ps, Matches T E (wrapWs w p) s := by
  open SampledLemmas Lemmas in
  rcases extractSampled_spec hp h with ⟨hA, -⟩ | ⟨rfl, W, qs, hW, rfl⟩
  · intro s hs
    have := mem_cleaned_of_kept hs
    rw [hA] at this
    cases this
  · rw [pruned_eq_self hprune.1 hprune.2]
    exact matches_kept_of_cleaned hT (hW.covers hT hsz (clean_strings_length _ _ items))

/-- the loop always ends (within the fuel the model gives it) and returns a result, for any sampler at all -/
theorem extract_sampled_terminates (T : CharTable) (hT : Consistent T) (o : Opts)
    (cfg : SampleCfg) (pick : Pick) (items : List (Option Line × Nat)) :
    ∃ r, extractSampled T o cfg pick items = some r := by
  open SampledLemmas Lemmas in
  rw [extractSampled_eq]
  split
  · exact ⟨_, rfl⟩
  · obtain ⟨ps, hps⟩ := sampledLoop_some_of_model_fuel T hT o cfg pick (cleaned o items) (sE o cfg pick items)
      (if sS0 o cfg items then 1 else 0) (sW0 o cfg pick items)
    rw [hps]
    exact ⟨_, rfl⟩

/-- with no more distinct examples than Size.do_all nothing is sampled: the result is the batch result -/
theorem extract_sampled_eq_batch (T : CharTable) (hT : Consistent T) (o : Opts) (hsz : 1 ≤ o.sizes.maxStringsInGroup)
    (cfg : SampleCfg) (pick : Pick) (items : List (Option Line × Nat))
    (hsmall : (clean o.stripOpt o.removeEmpties items).strings.length ≤ cfg.doAll) :
    extractSampled T o cfg pick items = extract T o items := by
  open SampledLemmas Lemmas in
  refine extractSampled_eq_extract_of_test T o cfg pick items hsmall fun ps hb e he => ?_
  -- the pass covers all the examples, so there is no failure
  have hF := (lF_eq_nil_iff (clean_strings_length _ _ items)).2 (batchExtractE_sound hT hsz hb)
  simp [hF, lFail, sampleIf, lS1] at he

/- `analyse_fragments` reads the cap on remembered strings as `max(cap, 1)` (rexpy.py:1063): what the code computes for
   the options `o` is `extract T o.norm` / `extractSampled T o.norm`. The hypothesis `1 ≤ cap` of the theorems above is
   then met by every Size setting, so the statements hold with no condition on the sizes at all. -/

/-- **Extraction is sound for every Size setting** (no hypothesis on the cap) -/
theorem extract_sound_every_size (T : CharTable) (hT : Consistent T) (o : Opts)
    (hprune : o.maxPatterns = none ∧ o.minStrings ≤ 1) (items : List (Option Line × Nat)) :
    ∃ ps E w, extract T o.norm items = some (ps, E, w) ∧
      ∀ s ∈ keptExamples o items, ∃ p ∈ ps, Matches T E (wrapWs w p) s :=
  extract_sound T hT o.norm (Lemmas.one_le_cap_norm o) hprune items

/-- **soundness under sampling for every Size setting** -/
theorem extract_sampled_sound_every_size (T : CharTable) (hT : Consistent T) (o : Opts) (cfg : SampleCfg) (pick : Pick)
    (hp : PickOK pick) (hprune : o.maxPatterns = none ∧ o.minStrings ≤ 1) (items : List (Option Line × Nat))
    (ps : List Pattern) (E : List Char) (w : Bool) (h : extractSampled T o.norm cfg pick items = some (ps, E, w)) :
    ∀ s ∈ keptExamples o items, ∃ p ∈ ps, Matches T E (wrapWs w p) s :=
  extract_sampled_sound T hT o.norm (Lemmas.one_le_cap_norm o) cfg pick hp hprune items ps E w h

/-- with no more distinct examples than Size.do_all the sampled path is the batch path, for every Size setting -/
theorem extract_sampled_eq_batch_every_size (T : CharTable) (hT : Consistent T) (o : Opts)
    (cfg : SampleCfg) (pick : Pick) (items : List (Option Line × Nat))
    (hsmall : (clean o.stripOpt o.removeEmpties items).strings.length ≤ cfg.doAll) :
    extractSampled T o.norm cfg pick items = extract T o.norm items :=
  extract_sampled_eq_batch T hT o.norm (Lemmas.one_le_cap_norm o) cfg pick items hsmall

/- a cap of 0 is such a setting: the normalised options keep two strings, the raw ones would keep one -/
example : ({ sizes := { maxStringsInGroup := 0 } } : Opts).norm.sizes.maxStringsInGroup = 1 := by decide

/-- **Tie**: the constants the model hard-codes are the ones in the source today
    (Generated/Rexpy.lean is rewritten from tdda/rexpy/rexpy.py on every run) -/
theorem tie_constants :
    Generated.Rexpy.maxGroups = maxGroups ∧ Generated.Rexpy.maxVrleRange = maxVrleRange ∧
    Generated.Rexpy.nAlignmentLevels = 1 ∧
    Generated.Rexpy.maxPuncInGroup = ({} : Sizes).maxPuncInGroup ∧
    Generated.Rexpy.maxStringsInGroup = ({} : Sizes).maxStringsInGroup ∧
    Generated.Rexpy.coarsestAlnumCode = cUAlpha ∧ Generated.Rexpy.codeAny = cAny ∧
    Generated.Rexpy.codePunc = cPunc ∧
    Generated.Rexpy.coarseOrder = [cUAlpha, cWhite, cPunc, cOther] := by decide

/-- **Tie**: the order in which alphanumeric classes are tried, for every set of extra letters -/
theorem tie_general_alnums :
    Generated.Rexpy.generalAlnums.all (fun e => generalAlnums e.1 == e.2) = true := by decide

/- non-vacuity -/
example : Consistent { w := fun c => asciiUpper c || asciiLower c || asciiDigit c || c == '_',
                       d := asciiDigit, s := isSpace } := by
  refine ⟨?_, ?_, ?_⟩
  · intro c h; rcases h with h | h | h | h <;> simp_all
  · intro c h; exact h
  · intro c h; exact h

end TddaVerif.Props.C03
