/-
C07 — discovery reports exact statistics of the data (constraints are tight).
The property theorems, each forwarding to its proof in Lemmas/Discover.lean.  Unless its statement says otherwise a
theorem is about a well-typed column `c` with `n = c.cells.length > 0` records and the constraint list `ks` that
`discoverField` returns for it; `type_is_column_type` holds for every column and every `n`, `nothing_for_absent` is
the case `n = 0`, `uniques_exact` is about the aggregate alone.
-/
import TddaVerif.Lemmas.Discover

namespace TddaVerif.Props.C07
open TddaVerif.Constraints TddaVerif.Props.C02

/-- discovery succeeds on every well-typed column, including columns with no records -/
theorem discover_total (incRex : Bool) (rexOf : List Val → List Nat) (c : Column) (hwf : c.WF = true) :
    ∃ ks, discoverField incRex rexOf c c.cells.length = .ok (some ks) :=
  Lemmas.discover_total incRex rexOf c hwf

/-- the field type is the column's type, reported first and once -/
theorem type_is_column_type (incRex : Bool) (rexOf : List Val → List Nat) (c : Column) (n : Nat)
    (ks : List Constraint) (h : discoverField incRex rexOf c n = .ok (some ks)) :
    ks.head? = some (.type (some [c.ftype])) ∧
    ∀ ts, Constraint.type ts ∈ ks → ts = some [c.ftype] :=
  Lemmas.type_is_column_type incRex rexOf c n ks h

/-- nothing but the type is discovered for data that is absent (plus, on request, the regular
    expressions of no examples) -/
theorem nothing_for_absent (incRex : Bool) (rexOf : List Val → List Nat) (c : Column)
    (ks : List Constraint) (h : discoverField incRex rexOf c 0 = .ok (some ks)) :
    ks = .type (some [c.ftype]) ::
          (if c.ftype == .string && incRex then [Constraint.rex (some (rexOf []))] else []) :=
  Lemmas.nothing_for_absent incRex rexOf c ks h

/-- min is attained by some record and is below every non-null value; it is reported exactly
    when a non-string column has a non-null value -/
theorem min_exact (incRex : Bool) (rexOf : List Val → List Nat) (c : Column) (hwf : c.WF = true)
    (ks : List Constraint) (hn : 0 < c.cells.length)
    (h : discoverField incRex rexOf c c.cells.length = .ok (some ks)) :
    (∀ v p, Constraint.min v p ∈ ks → ∃ m, v = some m ∧ m ∈ c.nonNull ∧ ∀ x ∈ c.nonNull, m.le x = true) ∧
    ((∃ v p, Constraint.min v p ∈ ks) ↔ (c.ftype ≠ .string ∧ c.nonNull ≠ [])) :=
  Lemmas.min_exact incRex rexOf c hwf ks hn h

/-- max likewise: attained by some record and above every non-null value, reported in the same cases -/
theorem max_exact (incRex : Bool) (rexOf : List Val → List Nat) (c : Column) (hwf : c.WF = true)
    (ks : List Constraint) (hn : 0 < c.cells.length)
    (h : discoverField incRex rexOf c c.cells.length = .ok (some ks)) :
    (∀ v p, Constraint.max v p ∈ ks → ∃ m, v = some m ∧ m ∈ c.nonNull ∧ ∀ x ∈ c.nonNull, x.le m = true) ∧
    ((∃ v p, Constraint.max v p ∈ ks) ↔ (c.ftype ≠ .string ∧ c.nonNull ≠ [])) :=
  Lemmas.max_exact incRex rexOf c hwf ks hn h

/-- minimum and maximum length are attained and extremal over the string lengths (in characters);
    reported exactly when a string column has a non-null value -/
theorem length_exact (incRex : Bool) (rexOf : List Val → List Nat) (c : Column) (hwf : c.WF = true)
    (ks : List Constraint) (hn : 0 < c.cells.length)
    (h : discoverField incRex rexOf c c.cells.length = .ok (some ks)) :
    (∀ v, Constraint.minLength v ∈ ks → ∃ m : Nat, v = some (m : Int) ∧
        (∃ x, Val.s x ∈ c.nonNull ∧ x.length = m) ∧ ∀ x, Val.s x ∈ c.nonNull → m ≤ x.length) ∧
    (∀ v, Constraint.maxLength v ∈ ks → ∃ m : Nat, v = some (m : Int) ∧
        (∃ x, Val.s x ∈ c.nonNull ∧ x.length = m) ∧ ∀ x, Val.s x ∈ c.nonNull → x.length ≤ m) ∧
    ((∃ v, Constraint.minLength v ∈ ks) ↔ (c.ftype = .string ∧ c.nonNull ≠ [])) ∧
    ((∃ v, Constraint.maxLength v ∈ ks) ↔ (c.ftype = .string ∧ c.nonNull ≠ [])) :=
  Lemmas.length_exact incRex rexOf c hwf ks hn h

/-- sign is the strongest class all values share; none is reported when the values share no class -/
theorem sign_strongest (incRex : Bool) (rexOf : List Val → List Nat) (c : Column) (hwf : c.WF = true)
    (ks : List Constraint) (hn : 0 < c.cells.length) (hne : c.nonNull ≠ [])
    (hnum : c.ftype = .bool ∨ c.ftype = .int ∨ c.ftype = .real)
    (h : discoverField incRex rexOf c c.cells.length = .ok (some ks)) :
    (∀ s, Constraint.sign (some s) ∈ ks →
        (∀ v ∈ c.nonNull, ∃ q, v.num = some q ∧ SignHolds s q) ∧
        ∀ s', Stronger' s' s = true → ¬ ∀ v ∈ c.nonNull, ∃ q, v.num = some q ∧ SignHolds s' q) ∧
    ((¬ ∃ s, Constraint.sign s ∈ ks) →
        ∀ s, ¬ ∀ v ∈ c.nonNull, ∃ q, v.num = some q ∧ SignHolds s q) :=
  Lemmas.sign_strongest incRex rexOf c hwf ks hn hne hnum h

/-- max-nulls is the null count when that is 0 or 1, otherwise absent -/
theorem maxNulls_iff (incRex : Bool) (rexOf : List Val → List Nat) (c : Column) (hwf : c.WF = true)
    (ks : List Constraint) (hn : 0 < c.cells.length)
    (h : discoverField incRex rexOf c c.cells.length = .ok (some ks)) (v : Option Int) :
    Constraint.maxNulls v ∈ ks ↔ (v = some (nullCells c : Int) ∧ nullCells c < 2) :=
  Lemmas.maxNulls_iff incRex rexOf c hwf ks hn h v

/-- no-duplicates is present exactly when a string or int field has more than one non-null value and
    all are distinct (the statement's "non-real field" also covers bool and date fields, for which the
    code never computes the distinct count: the recorded C07 findings) -/
theorem noDuplicates_iff (incRex : Bool) (rexOf : List Val → List Nat) (c : Column) (hwf : c.WF = true)
    (ks : List Constraint) (hn : 0 < c.cells.length)
    (h : discoverField incRex rexOf c c.cells.length = .ok (some ks)) (v : Option Bool) :
    Constraint.noDuplicates v ∈ ks ↔
      (v = some true ∧ c.ftype ≠ .real ∧ 1 < c.nonNull.length ∧
       c.nonNull.Pairwise (fun a b => a.eqv b = false)) :=
  Lemmas.noDuplicates_iff incRex rexOf c hwf ks hn h v

/-- allowed-values is exactly the sorted list of distinct non-null strings when there are between
    one and twenty of them, otherwise absent -/
theorem allowedValues_iff (incRex : Bool) (rexOf : List Val → List Nat) (c : Column) (hwf : c.WF = true)
    (ks : List Constraint) (hn : 0 < c.cells.length)
    (h : discoverField incRex rexOf c c.cells.length = .ok (some ks)) (v : Option (List Val)) :
    Constraint.allowedValues v ∈ ks ↔
      (c.ftype = .string ∧ v = some (calcUniques c) ∧ 0 < (calcUniques c).length ∧
       (calcUniques c).length ≤ 20) :=
  Lemmas.allowedValues_iff incRex rexOf c hwf ks hn h v

/-- `calcUniques` is what it is called: the distinct non-null values, each once, in ascending order -/
theorem uniques_exact (c : Column) (hwf : c.WF = true) :
    (∀ v, v ∈ calcUniques c ↔ v ∈ c.nonNull) ∧
    (calcUniques c).Pairwise (fun a b => a.lt b = true) :=
  Lemmas.uniques_exact c hwf

/- non-vacuity: a string column with a null -/
def exampleCol : Column :=
  { name := ['s'], ftype := FType.string, cells := [some (Val.s ['b']), none, some (Val.s ['a', 'b'])] }

example : discoverField false (fun _ => []) exampleCol 3
    = .ok (some [.type (some [.string]), .minLength (some 1), .maxLength (some 2), .maxNulls (some 1),
                 .noDuplicates (some true), .allowedValues (some [.s ['a', 'b'], .s ['b']])]) := by
  rfl

end TddaVerif.Props.C07
