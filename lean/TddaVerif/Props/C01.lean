/-
C01 — discovered constraints are satisfied by the data they came from.
The property theorems, each forwarding to its proof in Lemmas/Closure.lean.  `RexSound` and `discoverFrame` are
`RexSound'`, `discoverFrame'` of that file under the names the statements use.
-/
import TddaVerif.Lemmas.Closure

namespace TddaVerif.Props.C01
open TddaVerif.Constraints TddaVerif.Props.C02

/-- what C03 proves about rexpy, as a hypothesis on the parameter `rexOf`: every non-null string of
    the column is matched by one of the expressions returned for the column's distinct values
    (definition in Lemmas/Closure.lean) -/
abbrev RexSound := @RexSound'

/-- **Closure.** Every constraint discovered from a well-typed column — with or without regular
    expressions — is reported satisfied when that column is verified, for every ε ≥ 0, strict or
    sloppy typing, in verification or detection mode. -/
theorem closure (cfg : Cfg) (heps : 0 ≤ cfg.epsilon) (incRex : Bool) (rexOf : List Val → List Nat)
    (c : Column) (hwf : c.WF = true) (hrex : RexSound cfg rexOf c) (ks : List Constraint)
    (h : discoverField incRex rexOf c c.cells.length = .ok (some ks)) (detect : Bool) :
    ∀ k ∈ ks, verifyOn cfg c detect k = true :=
  Lemmas.closure cfg heps incRex rexOf c hwf hrex ks h detect

/-- discovery never fails on a well-typed column (zero rows, all-null, … included) -/
theorem discover_total (incRex : Bool) (rexOf : List Val → List Nat) (c : Column) (hwf : c.WF = true) :
    ∃ ks, discoverField incRex rexOf c c.cells.length = .ok (some ks) :=
  Lemmas.discover_total incRex rexOf c hwf

/-- the discovery of a whole frame: one constraint list per recognised column -/
abbrev discoverFrame := @discoverFrame'

/-- **Closure for a frame**: verifying a frame of well-typed columns with distinct names against
    its own discovered constraints reports no failure, every constraint passes, and no record would
    be flagged by detection. -/
theorem closure_frame (cfg : Cfg) (heps : 0 ≤ cfg.epsilon) (incRex : Bool) (rexOf : List Val → List Nat)
    (frame : List Column) (hwf : ∀ c ∈ frame, c.WF = true) (hnames : (frame.map (·.name)).Nodup)
    (hrex : ∀ c ∈ frame, RexSound cfg rexOf c) (detect : Bool) :
    let cs := discoverFrame incRex rexOf frame
    (verifyAll cfg frame detect cs).failures = 0 ∧
    (verifyAll cfg frame detect cs).passes = ((cs.map (·.2.length)).sum) ∧
    ∀ c ∈ frame, ∀ ks, (c.name, ks) ∈ cs → ks.filter (fun k => !verifyOn cfg c true k) = [] :=
  Lemmas.closure_frame cfg heps incRex rexOf frame hwf hnames hrex detect

/- non-vacuity: a column, its discovered constraints, all verified -/
example :
    (match discoverField false (fun _ => []) { name := ['n'], ftype := .int, cells := [some (.i (-3)), none, some (.i 4)] } 3 with
     | .ok (some ks) => ks.all (verifyOn { epsilon := 0, strict := true, rx := fun _ _ => false }
                                  { name := ['n'], ftype := .int, cells := [some (.i (-3)), none, some (.i 4)] } false)
     | _ => false) = true := by decide +kernel

end TddaVerif.Props.C01
