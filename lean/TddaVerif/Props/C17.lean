/-
C17 — the tdda command line gives the same constraints and verdicts as the library.
Proved here: what the command line *means* — for every command line written the documented way the scanner
(parametric in the option tables regenerated from flags.py and pd/*.py on every run) returns exactly the options
and files written; unknown options, missing input, too many file arguments and contradictory options never run
the command; an accepted invocation passes exactly the documented keywords to the library; which invocations the
pandas front-end takes (`applicable` of pd/extension.py, asked by console.py) depends only on some argument being `-` or
a flat file.
That the library call made with these keywords gives the same constraints / verdicts / detection output as a
direct call on the loaded DataFrame, and that failing invocations leave no output file, is runtime behaviour
(pandas, file system, process exit) decided by the oracle.
-/
import TddaVerif.Model.Applicable
import TddaVerif.Lemmas.Applicable
import TddaVerif.Model.Flags
import TddaVerif.Generated.Flags
import TddaVerif.Props.C17Spec
import TddaVerif.Lemmas.Flags

namespace TddaVerif.Props.C17
open TddaVerif.Flags

abbrev tableOf := @Lemmas.tableOf

/-- positionals first, then options written the documented way: the scanner returns exactly what was written -/
theorem scan_positionals_then_options (opts : List Opt) (ps : List Tok) (is : List Item) (fuel : Nat)
    (hT : TableWF opts)
    (hps : ∀ p ∈ ps, looksLikeOption p = false) (his : ∀ i ∈ is, i.WF opts)
    (hfuel : (ps ++ renderAll is).length < fuel) :
    scan opts fuel (ps ++ renderAll is) {} = .ok (meaning opts is { positionals := ps }) :=
  Lemmas.scan_positionals_then_options opts ps is fuel hT hps his hfuel

/-- options first (the last one not a list, which would swallow what follows), then positionals -/
theorem scan_options_then_positionals (opts : List Opt) (ps : List Tok) (is : List Item) (fuel : Nat)
    (hT : TableWF opts)
    (hps : ∀ p ∈ ps, looksLikeOption p = false) (his : ∀ i ∈ is, i.WF opts)
    (hlast : ∀ i, is.getLast? = some i → isList i = false)
    (hfuel : (renderAll is ++ ps).length < fuel) :
    scan opts fuel (renderAll is ++ ps) {} = .ok { meaning opts is {} with positionals := ps } :=
  Lemmas.scan_options_then_positionals opts ps is fuel hT hps his hlast hfuel

/-- an option-like token that no parser entry names, written where an option may stand, is never accepted:
    the command does not run -/
theorem unknown_option_never_runs (cmd : Cmd) (opts : List Opt) (ps : List Tok) (is : List Item) (u : Tok) (rest : List Tok)
    (hps : ∀ p ∈ ps, looksLikeOption p = false) (his : ∀ i ∈ is, i.WF opts)
    (hu : looksLikeOption u = true) (hunk : findOpt opts u = none) :
    ∀ params, run cmd opts (ps ++ renderAll is ++ u :: rest) ≠ .run params :=
  Lemmas.unknown_option_never_runs cmd opts ps is u rest hps his hu hunk

/-- no input named: rejected -/
theorem no_input_rejected (cmd : Cmd) (opts : List Opt) (is : List Item) (hT : TableWF opts)
    (his : ∀ i ∈ is, i.WF opts) :
    run cmd opts (renderAll is) = .reject :=
  Lemmas.no_input_rejected cmd opts is hT his

/-- too many file arguments: rejected -/
theorem too_many_positionals_rejected (cmd : Cmd) (opts : List Opt) (ps : List Tok) (is : List Item)
    (hps : ∀ p ∈ ps, looksLikeOption p = false) (his : ∀ i ∈ is, i.WF opts) (hn : 3 < ps.length) :
    run cmd opts (ps ++ renderAll is) = .reject :=
  Lemmas.too_many_positionals_rejected cmd opts ps is hps his hn

theorem rex_norex_rejected (p : Parsed) (h1 : p.flag "rex" = true) (h2 : p.flag "norex" = true) :
    discoverParams p = .reject :=
  Lemmas.rex_norex_rejected p h1 h2

theorem all_fields_rejected (p : Parsed) (h1 : p.flag "all" = true) (h2 : p.flag "fields" = true) :
    verifyParams p = .reject ∧ detectParams p = .reject :=
  Lemmas.all_fields_rejected p h1 h2

theorem per_constraint_contradiction_rejected (p : Parsed) (h1 : p.flag "per_constraint" = true)
    (h2 : p.flag "no_per_constraint" = true) : detectParams p = .reject :=
  Lemmas.per_constraint_contradiction_rejected p h1 h2

theorem output_fields_contradiction_rejected (p : Parsed) (l : List Tok) (h1 : p.list "output_fields" = some l)
    (h2 : p.flag "no_output_fields" = true) : detectParams p = .reject :=
  Lemmas.output_fields_contradiction_rejected p l h1 h2

/-- what an accepted `discover` invocation asks the library for -/
theorem discover_params_exact (p : Parsed) (ps : Params) (h : discoverParams p = .run ps) :
    ps = [("inc_rex", .b (p.flag "rex")), ("df_path", optS p.positionals[0]?), ("constraints_path", optS p.positionals[1]?)]
    ∧ 1 ≤ p.positionals.length ∧ p.positionals.length ≤ 2 ∧ p.unknown = [] ∧ ¬ (p.flag "rex" = true ∧ p.flag "norex" = true) :=
  Lemmas.discover_params_exact p ps h

/-- the keywords an accepted `verify` invocation passes: each is present exactly when its option was given -/
theorem verify_params_exact (p : Parsed) (ps : Params) (h : verifyParams p = .run ps) :
    ps.lookup "report" = some (.s (if p.flag "fields" && !p.flag "all" then "fields".toList else "all".toList)) ∧
    ps.lookup "ascii" = some (.b (p.flag "ascii")) ∧
    ps.lookup "type_checking" = (p.value "type_checking").map PVal.s ∧
    ps.lookup "epsilon" = (p.value "epsilon").map PVal.f ∧
    ps.lookup "df_path" = some (optS p.positionals[0]?) ∧
    ps.lookup "constraints_path" = some (optS p.positionals[1]?) :=
  Lemmas.verify_params_exact p ps h

theorem detect_params_exact (p : Parsed) (ps : Params) (h : detectParams p = .run ps) :
    ps.lookup "report" = some (.s "records".toList) ∧
    ps.lookup "ascii" = some (.b (p.flag "ascii")) ∧
    ps.lookup "type_checking" = (p.value "type_checking").map PVal.s ∧
    ps.lookup "epsilon" = (p.value "epsilon").map PVal.f ∧
    ps.lookup "write_all" = (if p.flag "write_all" then some (.b true) else none) ∧
    ps.lookup "per_constraint" = (if p.flag "no_per_constraint" then none else some (.b true)) ∧
    ps.lookup "index" = (if p.flag "index" then some (.b true) else none) ∧
    ps.lookup "boolean_ints" = (if p.flag "boolean_ints" then some (.b true) else none) ∧
    ps.lookup "interleave" = (if p.flag "interleave" then some (.b true) else none) ∧
    ps.lookup "output_fields" = (match p.list "output_fields" with
                                 | some l => some (.l l)
                                 | none => if p.flag "no_output_fields" then none else some (.l [])) ∧
    ps.lookup "in_place" = some (.b false) ∧
    ps.lookup "df_path" = some (optS p.positionals[0]?) ∧
    ps.lookup "constraints_path" = some (optS p.positionals[1]?) ∧
    ps.lookup "outpath" = some (optS p.positionals[2]?) :=
  Lemmas.detect_params_exact p ps h

theorem tie_tables_wf :
    TableWF (tableOf Generated.Flags.discoverOpts) ∧ TableWF (tableOf Generated.Flags.verifyOpts) ∧
    TableWF (tableOf Generated.Flags.detectOpts) :=
  Lemmas.tie_tables_wf 

/-- the destinations the mapping functions read exist, with the kind they are read as -/
theorem tie_dests :
    (∀ d ∈ ["rex", "norex"], ∃ o ∈ tableOf Generated.Flags.discoverOpts, o.dest = d.toList ∧ o.kind = 0) ∧
    (∀ d ∈ ["all", "fields", "ascii"], ∃ o ∈ tableOf Generated.Flags.verifyOpts, o.dest = d.toList ∧ o.kind = 0) ∧
    (∀ d ∈ ["type_checking", "epsilon"], ∃ o ∈ tableOf Generated.Flags.verifyOpts, o.dest = d.toList ∧ o.kind = 1) ∧
    (∀ d ∈ ["all", "fields", "ascii", "write_all", "per_constraint", "no_per_constraint", "no_output_fields", "interleave",
            "index", "boolean_ints"], ∃ o ∈ tableOf Generated.Flags.detectOpts, o.dest = d.toList ∧ o.kind = 0) ∧
    (∀ d ∈ ["type_checking", "epsilon"], ∃ o ∈ tableOf Generated.Flags.detectOpts, o.dest = d.toList ∧ o.kind = 1) ∧
    (∃ o ∈ tableOf Generated.Flags.detectOpts, o.dest = "output_fields".toList ∧ o.kind = 2) :=
  Lemmas.tie_dests 

/-- the documented spelling `--no-original-fields` is accepted by the detect parser -/
theorem tie_documented_spelling :
    (findOpt (tableOf Generated.Flags.detectOpts) "--no-original-fields".toList).map (·.dest) = some "no_output_fields".toList :=
  Lemmas.tie_documented_spelling 

/-- positional arities assumed by the mapping: discover / verify: input [constraints]; detect: input [constraints [outpath]] -/
theorem tie_positionals :
    Generated.Flags.discoverPositionals.map (·.2.1) = [true, false] ∧
    Generated.Flags.verifyPositionals.map (·.2.1) = [true, false] ∧
    Generated.Flags.detectPositionals.map (·.2.1) = [true, false, false] :=
  Lemmas.tie_positionals 

/- non-vacuity: a documented detect invocation -/
example : run .detect (tableOf Generated.Flags.detectOpts)
    ["in.csv".toList, "c.tdda".toList, "o.csv".toList, "--no-original-fields".toList, "--epsilon".toList, "0.5".toList]
    = .run [("report", .s "records".toList), ("ascii", .b false), ("epsilon", .f "0.5".toList), ("per_constraint", .b true),
            ("in_place", .b false), ("df_path", .s "in.csv".toList), ("constraints_path", .s "c.tdda".toList),
            ("outpath", .s "o.csv".toList)] := by decide +kernel
example : run .verify (tableOf Generated.Flags.verifyOpts) ["in.csv".toList, "-a".toList, "-f".toList] = .reject := by decide +kernel

open TddaVerif.Applicable in
/-- the dispatch test does not depend on where the input stands among the arguments -/
theorem applicable_perm (exts : List TddaVerif.Py.Line) (argv argv' : List TddaVerif.Py.Line) (h : argv.Perm argv') :
    applicable exts argv = applicable exts argv' := AppLemmas.applicable_perm exts argv argv' h

open TddaVerif.Applicable in
/-- flags and their values before, between or after the file arguments change nothing -/
theorem applicable_append (exts : List TddaVerif.Py.Line) (xs ys : List TddaVerif.Py.Line) :
    applicable exts (xs ++ ys) = (applicable exts xs || applicable exts ys) := AppLemmas.applicable_append exts xs ys

open TddaVerif.Applicable in
/-- one flat-file argument (or `-`) anywhere is enough -/
theorem applicable_of_mem (exts : List TddaVerif.Py.Line) (argv : List TddaVerif.Py.Line) (a : TddaVerif.Py.Line) (ha : a ∈ argv)
    (h : a = ['-'] ∨ exts.contains (splitextExt a) = true) : applicable exts argv = true :=
  AppLemmas.applicable_of_mem exts argv a ha h

open TddaVerif.Applicable in
/-- ... and without one the command is not taken -/
theorem not_applicable_iff (exts : List TddaVerif.Py.Line) (argv : List TddaVerif.Py.Line) :
    applicable exts argv = false ↔ ∀ a ∈ argv, a ≠ ['-'] ∧ exts.contains (splitextExt a) = false :=
  AppLemmas.not_applicable_iff exts argv

/-- **Tie**: the extensions the model is instantiated with are the ones in pd/extension.py today -/
theorem tie_applicable_exts :
    TddaVerif.Generated.Flags.applicableExts =
      [".csv".toList, ".psv".toList, ".tsv".toList, ".parquet".toList, ".json".toList, ".yaml".toList] :=
  AppLemmas.tie_applicable_exts

end TddaVerif.Props.C17
