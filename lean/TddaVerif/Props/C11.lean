/-
C11 — gentest: for a repeatable command the generated test exists, compiles and passes.

What a theorem can carry here is the logic of the generator and of the assertions the generated script makes:
 * the script contains the two fixed tests, the stream tests that were asked for and exactly one test per
   reference file, all with distinct names (no test silently replaces another);
 * the date detector is total and flags exactly the number triples one of whose readings is a real date
   (so output such as `version 1.2.0 build 15` or `31/02/2020` cannot make generation crash);
 * every comparison the script makes is check_strings (C04): on content identical to the reference it passes
   whatever exclusions (patterns, substrings, removals) were generated.
Running the command, copying outputs, detecting file types, rendering valid Python and leaving bystander files
alone are runtime behaviour: decided by the oracle, which generates and runs real scripts.
-/
import TddaVerif.Model.Gentest
import TddaVerif.Model.CheckStrings
import TddaVerif.Props.C04
import TddaVerif.Lemmas.Gentest
import TddaVerif.Lemmas.GentestScript
import TddaVerif.Generated.Gentest
import TddaVerif.Lemmas.ListAux

namespace TddaVerif.Props.C11
open TddaVerif.Gentest

theorem testNames_nodup (alnum : Char → Bool) (st : NameState) (bs : List Name) :
    (testNames alnum st bs).Nodup ∧ ∀ n ∈ testNames alnum st bs, n ∉ st.taken := Lemmas.testNames_nodup alnum st bs

/-- the script's test names are pairwise distinct -/
theorem plan_names_nodup (alnum : Char → Bool) (so se : Bool) (files : List (Name × Bool)) :
    ((plan alnum so se files).map (·.name)).Nodup := Lemmas.plan_names_nodup alnum so se files

theorem plan_length (alnum : Char → Bool) (so se : Bool) (files : List (Name × Bool)) :
    (plan alnum so se files).length = files.length + (if so then 1 else 0) + (if se then 1 else 0) + 2 :=
  Lemmas.plan_length alnum so se files

/-- exactly one test per reference file, in order, with the comparison its type asks for -/
theorem plan_files (alnum : Char → Bool) (so se : Bool) (files : List (Name × Bool)) :
    ((plan alnum so se files).filter (fun t => t.kind == some .textFile || t.kind == some .binaryFile)).map
        (fun t => (t.subject, t.kind == some .textFile)) = files := Lemmas.plan_files alnum so se files

theorem plan_streams (alnum : Char → Bool) (so se : Bool) (files : List (Name × Bool)) :
    (((plan alnum so se files).filter (fun t => t.kind == some .string)).map (·.subject)
      = (if so then ["stdout".toList] else []) ++ (if se then ["stderr".toList] else [])) ∧
    ((plan alnum so se files).filter (fun t => t.kind == none)).map (·.name) = ["no_exception".toList, "exit_code".toList] :=
  Lemmas.plan_streams alnum so se files

abbrev RealDate := @Lemmas.RealDate

theorem possibleDate_iff (y m d : Nat) : possibleDate y m d = true ↔ RealDate y m d := Lemmas.possibleDate_iff y m d

/-- the date detector is a total function of the numbers found, true exactly for real dates in range -/
theorem numDateLike_iff (n1 n2 n3 : Nat) (inRange : Nat → Nat → Nat → Bool) :
    numDateLike n1 n2 n3 inRange = true ↔
      (RealDate n3 n2 n1 ∧ inRange n3 n2 n1 = true) ∨ (RealDate n1 n2 n3 ∧ inRange n1 n2 n3 = true) ∨
      (RealDate n3 n1 n2 ∧ inRange n3 n1 n2 = true) := Lemmas.numDateLike_iff n1 n2 n3 inRange

/-- a comparison of the command's output with a reference holding the same content passes, whatever
    patterns, substrings and removals the generator wrote into it (C04) -/
theorem unchanged_output_passes (o : TddaVerif.CheckStrings.Opts) (pat : TddaVerif.CheckStrings.PatFn)
    (content : List TddaVerif.Py.Line) : (TddaVerif.CheckStrings.checkStrings o pat content content).failures = 0 :=
  C04.identical_passes o pat content

/- non-vacuity: the collisions that used to lose a test
   (`+kernel`: the literals are decoded and the names compared by the kernel alone; where plain `decide` stands the
   elaborator's own evaluation before that costs little) -/
example : testNames isAsciiAlnum {} ["a_b2".toList, "a.b".toList, "a_b".toList, "stdout".toList]
    = ["a_b2".toList, "a_b".toList, "a_b3".toList, "stdout4".toList] := by decide +kernel
example : numDateLike 31 2 2020 (fun _ _ _ => true) = false := by decide
example : numDateLike 1 2 0 (fun _ _ _ => true) = false := by decide
example : numDateLike 29 2 2020 (fun _ _ _ => true) = true := by decide

open TddaVerif.GentestScript in
/-- in the class body of the template, in the order of the source, every class-level name a statement reads when the
    class is created (cwd by refdir, cwd and tmpdir by the list of generated files) is defined before it -/
theorem class_body_well_ordered : wellOrdered (TddaVerif.Generated.Gentest.classBody.map partOf) = true := by
  decide +kernel

open TddaVerif.GentestScript in
/-- what well-ordered means -/
theorem wellOrdered_spec (ps : List Part) (h : wellOrdered ps = true) (pre : List Part) (p : Part) (post : List Part)
    (hs : ps = pre ++ p :: post) (u : List Char) (hu : u ∈ p.uses) : ∃ q ∈ pre, u ∈ q.defines :=
  GentestScript.Lemmas.wellOrdered_spec ps h pre p post hs u hu

/-- **tie.** The template's class body, its two fixed tests and its entry point are the ones the model reads -/
theorem tie_script_template :
    TddaVerif.Generated.Gentest.classBody = ["command", "cwd", "refdir", "%SET_TMPDIR", "%GENERATED_FILES", "setUpClass",
      "test_no_exception", "test_exit_code"].map String.toList ∧
    TddaVerif.Generated.Gentest.noExceptionTest = "self.assertIsNone(self.exception)".toList ∧
    TddaVerif.Generated.Gentest.exitCodeTest = "self.assertEqual(self.exit_code, %(EXIT_CODE)d)".toList ∧
    TddaVerif.Generated.Gentest.tailMain = "if __name__ == '__main__':; ReferenceTestCase.main()".toList :=
  ⟨(ListAux.map_toList_ofList _).symm, String.toList_ofList.symm, String.toList_ofList.symm,
    String.toList_ofList.symm⟩

end TddaVerif.Props.C11
