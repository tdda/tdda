/-
C09 — .tdda files round-trip: same text, same constraints (hence same verdicts), unknown keys ignored; and so does
their creation metadata (Model/TddaMeta.lean; its keys and the two guards are regenerated from base.py).
Property theorems only; the proofs are in TddaVerif/Lemmas/.  `json.dumps` / `json.loads` are
outside the model (trusted contract: loads (dumps x) = x): the theorems are at the level of the
dictionary that is handed to `json.dumps` and received from `json.loads`, and of the text filter
`strip_lines` that is applied to the dumped text.
-/
import TddaVerif.Model.TddaFile
import TddaVerif.Lemmas.TddaFile
import TddaVerif.Lemmas.TddaMeta
import TddaVerif.Generated.Meta

namespace TddaVerif.Props.C09
open TddaVerif.Py TddaVerif.TddaFile

/-- str() of a valid datetime is read back as that datetime — with or without fractional seconds, naive or with a
    UTC offset of whole seconds (as written for timezone-aware columns: +HH:MM, or +HH:MM:SS for a local mean time) -/
theorem getDate_strDatetime (t : Civil) (h : t.valid = true) : getDate (strDatetime t) = .ok t :=
  Lemmas.getDate_strDatetime t h

/-- **Load ∘ dump.** Serialising a well-formed in-memory constraint set to its dictionary and
    loading that dictionary back gives the same constraints (each field's constraints now in the
    preferred key order), with no warning and no error — for every kind, precision-qualified bounds,
    date-valued bounds, any names and strings. -/
theorem load_dump (fields : List (Line × List Con)) (hwf : Lemmas.WFSet fields) :
    fromDict (toDict fields) = .ok { fields := Lemmas.canonSet fields, warnings := [] } :=
  Lemmas.load_dump fields hwf

/-- … and the reloaded set serialises to the identical dictionary (hence, json.dumps being a
    function, to the identical text), for any number of further cycles -/
theorem dump_load_dump (fields : List (Line × List Con)) (hwf : Lemmas.WFSet fields) :
    toDict (Lemmas.canonSet fields) = toDict fields ∧ Lemmas.WFSet (Lemmas.canonSet fields) :=
  Lemmas.dump_load_dump fields hwf

/-- the reloaded set holds exactly the same constraint for every field and kind, so every verdict,
    which is a function of (field, kind, constraint), is the same before and after -/
theorem same_constraints (fields : List (Line × List Con)) (hwf : Lemmas.WFSet fields) (name kind : Line) :
    (((Lemmas.canonSet fields).find? (fun f => f.1 == name)).bind (fun f => f.2.find? (fun c => c.kind == kind)))
      = ((fields.find? (fun f => f.1 == name)).bind (fun f => f.2.find? (fun c => c.kind == kind))) :=
  Lemmas.same_constraints fields hwf name kind

/-- **Unknown kinds and # keys are ignored**: the constraints loaded from a field's dictionary
    depend only on its entries of standard kinds (the rest at most produce warnings) -/
theorem unknown_ignored (name : Line) (c : List (Line × JVal)) :
    (loadField name c).map (·.1) =
      (loadField name (c.filter (fun kv => standardKinds.contains kv.1))).map (·.1) :=
  Lemmas.unknown_ignored name c

/-- a key starting with `#` never even warns -/
theorem hash_key_silent (name : Line) (pre post : List (Line × JVal)) (k : Line) (v : JVal)
    (hk : k.head? = some '#') (hs : standardKinds.contains k = false) :
    loadField name (pre ++ (k, v) :: post) = loadField name (pre ++ post) :=
  Lemmas.hash_key_silent name pre post k v hk hs

/-- `strip_lines` leaves no line ending in whitespace … -/
theorem stripLines_no_trailing_ws (s : Line) :
    ∀ l ∈ splitNl (stripLines s) [], rstrip l = l :=
  Lemmas.stripLines_no_trailing_ws s

/-- … and is the identity on text that has none (such as the output of json.dumps(indent=4)) -/
theorem stripLines_id (s : Line) (h : ∀ l ∈ splitNl s [], rstrip l = l) : stripLines s = s :=
  Lemmas.stripLines_id s h

/-- it never touches anything but trailing blanks: the text keeps its line structure -/
theorem stripLines_lines (s : Line) :
    (splitNl (stripLines s) []).length = (splitNl s []).length :=
  Lemmas.stripLines_lines s

/- non-vacuity; `String.reduceToList` first turns each literal into its characters, sparing the elaborator its decoding -/
example : getDate (strDatetime ⟨⟨1999, 12, 31, 23, 59, 59, 500000⟩, none⟩) = .ok ⟨⟨1999, 12, 31, 23, 59, 59, 500000⟩, none⟩ :=
  getDate_strDatetime _ (by decide)
example : strDatetime ⟨⟨2020, 1, 2, 3, 4, 5, 0⟩, none⟩ = "2020-01-02 03:04:05".toList := by
  simp only [String.reduceToList]; decide
example : strDatetime ⟨⟨2020, 1, 2, 3, 4, 5, 0⟩, some (-12600)⟩ = "2020-01-02 03:04:05-03:30".toList := by
  simp only [String.reduceToList]; rfl
example : strDatetime ⟨⟨1900, 1, 1, 0, 0, 0, 633563⟩, some 19270⟩ = "1900-01-01 00:00:00.633563+05:21:10".toList := by
  simp only [String.reduceToList]; rfl
example : getDate "1900-01-01 00:00:00.633563-03:30:52".toList = .ok ⟨⟨1900, 1, 1, 0, 0, 0, 633563⟩, some (-12652)⟩ := by
  simp only [String.reduceToList]; decide
example : getDate "2020-01-02 03:04:05.250000-00:30".toList = .ok ⟨⟨2020, 1, 2, 3, 4, 5, 250000⟩, some (-1800)⟩ := by
  simp only [String.reduceToList]; decide
example : getDate "2020-01-02 03:04:05+25:00".toList = .invalid := by simp only [String.reduceToList]; decide
example : getDate "2020-01-02+01:00".toList = .notDate := by simp only [String.reduceToList]; decide
example : (⟨⟨2020, 1, 2, 3, 4, 5, 0⟩, some (-12600)⟩ : Civil).valid = true := by decide
example : stripLines "a  \nb\t\n".toList = "a\nb\n".toList := by simp only [String.reduceToList]; decide

open TddaVerif.TddaMeta in
/-- the keys of the source are pairwise different (the round trip below needs it) -/
theorem metadata_keys_nodup : TddaVerif.Generated.Meta.metadataKeys.Nodup := by decide

open TddaVerif.TddaMeta in
/-- **metadata round trip.** With the keys of the source: what is written after loading what was written is what was
    written - n_records 0, an empty dataset name and every other value that is not null included -/
theorem meta_roundtrip (obj : Key → MV) :
    getMeta TddaVerif.Generated.Meta.metadataKeys
        (loadMeta TddaVerif.Generated.Meta.metadataKeys (getMeta TddaVerif.Generated.Meta.metadataKeys obj))
      = getMeta TddaVerif.Generated.Meta.metadataKeys obj :=
  TddaMeta.Lemmas.meta_roundtrip _ metadata_keys_nodup obj

open TddaVerif.TddaMeta in
/-- a value that is not null is kept whatever it is -/
theorem falsy_value_kept (k : Key) (hk : k ∈ TddaVerif.Generated.Meta.metadataKeys) (t : List Char) :
    loadMeta TddaVerif.Generated.Meta.metadataKeys [(k, .val t)] k = .val t :=
  TddaMeta.Lemmas.falsy_value_kept _ k hk t

open TddaVerif.TddaMeta in
/-- unknown keys and null values load nothing -/
theorem meta_unknown_or_null_ignored (k k' : Key) (v : MV) (h : k' ∉ TddaVerif.Generated.Meta.metadataKeys ∨ v = .null) :
    loadMeta TddaVerif.Generated.Meta.metadataKeys [(k', v)] k = .null :=
  TddaMeta.Lemmas.unknown_or_null_ignored _ k k' v h

/-- **tie.** The guards of the two loops in base.py are the ones the model translates -/
theorem tie_meta_guards :
    TddaVerif.Generated.Meta.loadGuard = "k in METADATA_KEYS and v is not None".toList ∧
    TddaVerif.Generated.Meta.loadAction = "self.__dict__[k] = v".toList ∧
    TddaVerif.Generated.Meta.getGuard = "getattr(self, k, None) is not None".toList :=
  -- a string literal is `String.ofList` of its characters
  ⟨String.toList_ofList.symm, String.toList_ofList.symm, String.toList_ofList.symm⟩

example : "n_records".toList ∈ TddaVerif.Generated.Meta.metadataKeys := by simp only [String.reduceToList]; decide

end TddaVerif.Props.C09
