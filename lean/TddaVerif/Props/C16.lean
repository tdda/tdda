/-
C16 — every CSVW date / date-time format built from the documented fields is
translated to the strptime format that reads those fields back.

The theorems are about `Generated.Csvw.chain`, the replacement chain the
translator extracts from tdda/serial/csvw.py on every run: a change to the
chain in the source re-runs these proofs against the new chain.
Also here: the CSVW datatype -> metadata type -> pandas dtype tables on the documented types, and when a dialect makes
pandas read a file without a header row (Model/CsvwDialect.lean).
-/
import TddaVerif.Model.Csvw
import TddaVerif.Generated.Csvw
import TddaVerif.Lemmas.CsvwDialect
import TddaVerif.Lemmas.PyText

namespace TddaVerif.Props.C16
open TddaVerif.Py TddaVerif.Csvw
open TddaVerif.Generated.Csvw (chain extChain reIso8601 csvwTypeToMtype mtypeToPandas)

/-- side conditions on the regenerated chain, decided by the kernel:
    no `old` is empty and no documented separator occurs in any `old` -/
def ChainOk (ch : Chain) : Bool :=
  ch.all (fun on => !on.1.isEmpty && allSeps.all (fun s => !on.1.contains s.char))

theorem chain_ok : ChainOk chain = true := by decide

/-- the chain distributes over any character that occurs in no `old` -/
theorem applyChain_append_sep (ch : Chain) (c : Char)
    (h : ∀ on ∈ ch, on.1 ≠ [] ∧ c ∉ on.1) (a b : List Char) :
    applyChain ch (a ++ c :: b) = applyChain ch a ++ c :: applyChain ch b := by
  induction ch generalizing a b with
  | nil => rfl
  | cons on rest ih =>
    have h1 := h on List.mem_cons_self
    rw [applyChain, List.foldl_cons, replace_append_sep on.1 on.2 c h1.2 h1.1]
    exact ih (fun x hx => h x (List.mem_cons_of_mem _ hx)) _ _

theorem chainOk_sep {ch : Chain} (h : ChainOk ch = true) (s : Sep) : ∀ on ∈ ch, on.1 ≠ [] ∧ s.char ∉ on.1 := by
  intro on hon
  have := List.all_eq_true.1 h on hon
  simp only [Bool.and_eq_true, Bool.not_eq_true', List.isEmpty_eq_false_iff, List.all_eq_true] at this
  exact ⟨this.1, by simpa using this.2 s (by cases s <;> decide)⟩

/-- each documented field alone is translated to its directive -/
theorem token_translated (t : Tok) : applyChain chain t.text = t.directive := by
  cases t <;> decide

/-- **Main theorem.** For every pattern made of documented fields separated by
    documented separators — any number of fields, any order — the chain yields
    exactly the pattern with each field replaced by its strptime directive. -/
theorem separated_translated (t : Tok) (rest : List (Sep × Tok)) :
    applyChain chain (render t rest) = directives t rest := by
  induction rest generalizing t with
  | nil => exact token_translated t
  | cons st rest ih =>
    obtain ⟨s, t'⟩ := st
    simp only [render, directives]
    rw [applyChain_append_sep chain s.char (chainOk_sep chain_ok s), token_translated, ih]

theorem text_no_percent (t : Tok) : '%' ∉ t.text := by cases t <;> decide

theorem sep_ne_percent (s : Sep) : '%' ≠ s.char := by cases s <;> decide

theorem render_no_percent (t : Tok) (rest : List (Sep × Tok)) :
    (render t rest).contains '%' = false := by
  rw [List.contains_eq_mem, decide_eq_false_iff_not]
  induction rest generalizing t with
  | nil => exact text_no_percent t
  | cons st rest ih => simp [render, text_no_percent, sep_ne_percent, ih]

theorem render_ne_nil (t : Tok) (rest : List (Sep × Tok)) : (render t rest).isEmpty = false := by
  cases rest with
  | nil => cases t <;> rfl
  | cons st rest => obtain ⟨s, t'⟩ := st; cases t <;> rfl

/-- The whole function (without the extensions flag) on a separated pattern:
    the directive pattern, collapsed to pandas' `ISO8601` exactly when the
    directive pattern is one of the ISO 8601 forms. -/
theorem translate_separated (t : Tok) (rest : List (Sep × Tok)) :
    translate chain extChain false (render t rest)
      = if isIso (directives t rest) then iso8601 else directives t rest := by
  unfold translate
  rw [render_no_percent, separated_translated, render_ne_nil]
  simp

/-- documented unseparated forms (testDateFormatsMapping and the CSVW primer) -/
theorem unseparated_forms :
    applyChain chain "yyyyMMdd".toList = "%Y%m%d".toList ∧
    applyChain chain "ddMMyyyy".toList = "%d%m%Y".toList ∧
    applyChain chain "MMddyyyy".toList = "%m%d%Y".toList ∧
    applyChain chain "yyMMdd".toList = "%y%m%d".toList ∧
    applyChain chain "HHmmss".toList = "%H%M%S".toList ∧
    applyChain chain "HHmm".toList = "%H%M".toList ∧
    applyChain chain "yyyyMMddTHHmmss".toList = "%Y%m%dT%H%M%S".toList := by
  simp only [String.reduceToList]; decide +kernel

/-- the boundary of the claim: adjacent month and minute fields are NOT translated
    field by field (`MMmm` gives `%%Mm`), which is why the statement is about
    separated patterns and the listed unseparated forms -/
theorem adjacent_month_minute_unsound :
    applyChain chain ['M', 'M', 'm', 'm'] = ['%', '%', 'M', 'm'] := by decide

/-- a directive pattern starts with `%` -/
theorem directives_head (t : Tok) (rest : List (Sep × Tok)) : (directives t rest).head? = some '%' := by
  cases t <;> rcases rest with _ | ⟨⟨s, t'⟩, rest⟩ <;> rfl

/-- the ISO collapse is sound: a separated pattern collapses to `ISO8601` only if
    its directive text is literally one of the ISO 8601 layouts -/
theorem iso_collapse_sound (t : Tok) (rest : List (Sep × Tok))
    (h : translate chain extChain false (render t rest) = iso8601) :
    directives t rest ∈ isoForms := by
  rw [translate_separated] at h
  split at h
  · simpa [isIso] using ‹isIso (directives t rest) = true›
  · -- `ISO8601` does not start with `%`
    exact absurd (h ▸ directives_head t rest) (by decide)

/-- the regex whose language `isIso` models is the one in the source -/
theorem iso_regex_source :
    reIso8601 = ['^', '%', 'Y', '-', '%', 'm', '-', '%', 'd', '(', '[', 'T', ' ', ']', '%', 'H', ':',
                 '%', 'M', ':', '%', 'S', '(', Char.ofNat 92, '.', '%', 'f', ')', '?', ')', '?', '$'] :=
  rfl

/-- CSVW datatype -> metadata type -> pandas dtype, for the six documented types -/
def pandasOf (csvwType : List Char) : Option (List Char) :=
  (lookup csvwTypeToMtype csvwType).bind (lookup mtypeToPandas)

theorem dtype_table :
    pandasOf "boolean".toList = some "boolean".toList ∧
    pandasOf "integer".toList = some "Int64".toList ∧
    pandasOf "number".toList = some "float".toList ∧
    pandasOf "string".toList = some "string".toList ∧
    pandasOf "date".toList = some "date".toList ∧
    pandasOf "datetime".toList = some "datetime".toList := by
  simp only [String.reduceToList]; decide

/-- every CSVW datatype in the table maps to some pandas dtype (no dangling metadata type) -/
theorem dtype_table_total : csvwTypeToMtype.all (fun kv => (lookup mtypeToPandas kv.2).isSome) = true := by
  decide

open TddaVerif.CsvwDialect in
/-- the file is read without a header row exactly when the dialect says `header: false` (or 0) or `headerRowCount: 0` -/
theorem headerless_iff (h c : JV) : headerless h c = true ↔ (h.eqZero = true ∨ c.eqZero = true) :=
  CsvwDialect.Lemmas.headerless_iff h c

open TddaVerif.CsvwDialect in
/-- each of the three ways a dialect declares a header-less file works, whatever else it says about the other key -/
theorem declared_headerless (names : List (List Char)) :
    (∀ c, headerKw (.bool false) c names = some names) ∧ (∀ h, headerKw h (.num 0) names = some names) :=
  ⟨fun c => by rw [CsvwDialect.Lemmas.headerKw_eq]; rfl,
    fun h => by rw [CsvwDialect.Lemmas.headerKw_eq, Bool.or_comm]; rfl⟩

open TddaVerif.CsvwDialect in
/-- and a dialect that does not say so (no dialect, `header: true`, a positive count) keeps the header row -/
theorem default_has_header (names : List (List Char)) (n : Nat) :
    headerKw .absent .absent names = none ∧ headerKw (.bool true) .absent names = none ∧
    headerKw .absent (.num (n + 1)) names = none ∧ headerKw (.bool true) (.num (n + 1)) names = none := by
  refine ⟨rfl, rfl, ?_, ?_⟩ <;> rw [CsvwDialect.Lemmas.headerKw_eq] <;> rfl

/-- **tie.** The expression process_dialect assigns to `header_rows`, the dialect keys its names were read from and the
    test to_pandas_read_csv_args makes on it are the ones the model translates (regenerated from csvw.py / pandasio.py
    on every run) -/
theorem tie_header_rule :
    TddaVerif.Generated.Csvw.headerRowsExpr = "0 if header == False else nvl(header_rows, 1)".toList ∧
    TddaVerif.Generated.Csvw.headerRowsKeys
      = [("header".toList, "header".toList), ("header_rows".toList, "headerRowCount".toList)] ∧
    TddaVerif.Generated.Csvw.headerRowsTests = ["md.header_rows == 0".toList] := by
  refine ⟨String.toList_ofList.symm, ?_, congrArg (fun l => [l]) String.toList_ofList.symm⟩
  simp only [TddaVerif.Generated.Csvw.headerRowsKeys, List.cons.injEq, Prod.mk.injEq, and_true]
  exact ⟨⟨String.toList_ofList.symm, String.toList_ofList.symm⟩, String.toList_ofList.symm, String.toList_ofList.symm⟩

/- non-vacuity: a concrete separated pattern and its translation -/
example : render .dd [(.slash, .MM), (.slash, .yyyy), (.space, .HH), (.colon, .mm)]
    = "dd/MM/yyyy HH:mm".toList := String.toList_ofList.symm
example : directives .dd [(.slash, .MM), (.slash, .yyyy), (.space, .HH), (.colon, .mm)]
    = "%d/%m/%Y %H:%M".toList := String.toList_ofList.symm
example : translate chain extChain false "yyyy-MM-ddTHH:mm:ss.SSS".toList = iso8601 := by
  simp only [String.reduceToList]; decide

end TddaVerif.Props.C16
