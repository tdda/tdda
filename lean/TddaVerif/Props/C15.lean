/-
C15 — failed text assertions leave faithful artefacts; passing ones leave none.

Property theorems only; the proofs are in Lemmas/.
-/
import TddaVerif.Model.CheckStrings
import TddaVerif.Props.C04Spec
import TddaVerif.Lemmas.Artefacts
import TddaVerif.Lemmas.TmpDir

namespace TddaVerif.Props.C15
open TddaVerif.Py TddaVerif.CheckStrings TddaVerif.Props.C04

/-- a passing comparison plans no file at all -/
theorem pass_writes_nothing (o : Opts) (pat : PatFn) (a e : List Line) (gnl : Bool) (raw : Line)
    (h : (checkStrings o pat a e).failures = 0) :
    plan o (checkStrings o pat a e) gnl raw = { rawActual := none, diffActual := none, diffExpected := none } :=
  Lemmas.pass_writes_nothing o pat a e gnl raw h

/-- the file written as the raw actual when a string comparison fails holds the actual content exactly as it was
    given (`raw`), whatever was stripped, removed, ignored or preprocessed for the comparison -/
theorem raw_actual_content (o : Opts) (pat : PatFn) (a e : List Line) (gnl : Bool) (raw : Line)
    (hf : (checkStrings o pat a e).failures = 1) (hc : o.createTemporaries = true)
    (hs : o.actualPath = false) :
    (plan o (checkStrings o pat a e) gnl raw).rawActual = some raw :=
  Lemmas.raw_actual_content o pat a e gnl raw hf hc hs

/-- a file comparison never writes a raw actual (the actual file itself is named) -/
theorem file_actual_not_rewritten (o : Opts) (pat : PatFn) (a e : List Line) (gnl : Bool) (raw : Line)
    (hs : o.actualPath = true) : (plan o (checkStrings o pat a e) gnl raw).rawActual = none :=
  Lemmas.file_actual_not_rewritten o pat a e gnl raw hs

/-- the reported first differing byte offset is exact: everything before it agrees, and it is
    either the end of the shorter input or a position where the bytes differ -/
theorem binary_offset_exact (a e : List Nat) :
    firstDiff a e ≤ min a.length e.length ∧
    (∀ i, i < firstDiff a e → a[i]? = e[i]?) ∧
    (firstDiff a e = min a.length e.length ∨ a[firstDiff a e]? ≠ e[firstDiff a e]?) :=
  Lemmas.binary_offset_exact a e

/-- the marker for two different lines is COMMON-PREFIX ( LEFT | RIGHT ) COMMON-SUFFIX with
    maximal common prefix and, after it, maximal common suffix -/
theorem diffMarker_shape (l r : Line) (h : l ≠ r) :
    ∃ pre ml mr suf, l = pre ++ ml ++ suf ∧ r = pre ++ mr ++ suf ∧
      diffMarker l r = pre ++ ['('] ++ ml ++ ['|'] ++ mr ++ [')'] ++ suf ∧
      (ml.head? ≠ mr.head? ∨ ml = [] ∨ mr = []) ∧
      (ml.getLast? ≠ mr.getLast? ∨ ml = [] ∨ mr = []) :=
  Lemmas.diffMarker_shape l r h

theorem diffMarker_self (l : Line) : diffMarker l l = l := Lemmas.diffMarker_self l

/-- **post-processed pair.** When both sides have the same number of lines after removal and a
    reconstruction is produced, the two reconstructed texts have the same number of lines and
    differ exactly on the unexcused pairs, in order (each shown after the requested stripping). -/
theorem postprocessed_differ_exactly (o : Opts) (pat : PatFn) (a e : List Line)
    (ra re : List Line)
    (hl : (kept o a).length = (kept o e).length)
    (hr : (checkStrings o pat a e).reconstruction = some (ra, re)) :
    ra.length = re.length ∧
    (ra.zip re).filter (fun p => p.1 != p.2)
      = (badPairs o pat a e).map (fun p => (normalize o p.1, normalize o p.2)) :=
  Lemmas.postprocessed_differ_exactly o pat a e ra re hl hr

open TddaVerif.TmpDir in
/-- a directory configured with `set_defaults(tmp_dir=d)` is the one written to, whatever TDDA_FAIL_DIR and the system say -/
theorem configured_dir_wins (d : Path) (env : Option Path) (sys : Path) (h : d ≠ []) :
    tmpDir (some (some d)) env sys = d := TmpDir.Lemmas.comparisonTmpDir_some h sys

open TddaVerif.TmpDir in
/-- with nothing configured, TDDA_FAIL_DIR is used -/
theorem env_dir_when_unset (d sys : Path) (h : d ≠ []) : tmpDir none (some d) sys = d :=
  TmpDir.Lemmas.env_dir_when_unset d sys h

open TddaVerif.TmpDir in
/-- and otherwise (nothing configured and no variable, or `None` / an empty string configured) the system's directory -/
theorem system_dir_otherwise (sys : Path) :
    tmpDir none none sys = sys ∧ tmpDir (some none) none sys = sys ∧ tmpDir (some (some [])) none sys = sys
    ∧ ∀ env, tmpDir (some none) env sys = sys := TmpDir.Lemmas.system_dir_otherwise sys

open TddaVerif.TmpDir in
/-- **nothing outside the temporary directory.** Every path add_failures writes, for whatever actual / reference path
    (absolute, with directories, ending in a separator, holding a name that looks like a temporary one), is a direct
    child of the temporary directory -/
theorem written_inside (d : Path) (c : Call) : ∀ p ∈ written d c, ChildOf d p := TmpDir.Lemmas.written_inside d c

open TddaVerif.TmpDir in
/-- the files of one failure do not overwrite each other -/
theorem written_nodup (d : Path) (c : Call) : (written d c).Nodup := TmpDir.Lemmas.written_nodup d c

open TddaVerif.TmpDir in
/-- `create_temporaries=False` writes nothing -/
theorem no_temporaries_writes_nothing (d : Path) (c : Call) (h : c.createTemporaries = false) : written d c = [] :=
  TmpDir.Lemmas.no_temporaries_writes_nothing d c h

/- non-vacuity -/
open TddaVerif.TmpDir in
example : written "/t/tmp".toList ⟨none, some "ref/dir/STDOUT".toList, true, false, true, true⟩
    = ["/t/tmp/actual-raw-STDOUT".toList, "/t/tmp/actual-STDOUT".toList, "/t/tmp/expected-STDOUT".toList] := by
  simp only [String.reduceToList]; decide

example : diffMarker "took 12 ms".toList "took 345 ms".toList = "took (12|345) ms".toList := by
  simp only [String.reduceToList]; decide
example : firstDiff [1, 2, 3] [1, 2, 4, 5] = 2 := by decide
example : (checkStrings { removeLines := ["user".toList], ignoreSubstrings := ["id".toList] } (fun _ _ => none)
      ["k".toList, "id 1".toList, "z".toList] ["user q".toList, "k".toList, "id 2".toList, "w".toList]).reconstruction
    = some (["*** (|user q)".toList, "k".toList, "*** id (1|2)".toList, "z".toList],
            ["*** (|user q)".toList, "k".toList, "*** id (1|2)".toList, "w".toList]) := by
  simp only [String.reduceToList]; rfl

end TddaVerif.Props.C15
