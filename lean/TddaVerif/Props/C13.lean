/-
C13 — every expression rexpy returns matches at least one example; never more expressions than
distinct examples; none for an empty input; pruning only deletes; expressions are anchored.
(Validity of the rendered text as a Python regular expression is decided by re.compile in the
oracle; tag invariance holds by construction: tagging is not part of the pattern AST, only of its
rendering.)
-/
import TddaVerif.Model.Rexpy
import TddaVerif.Model.RexpyRender
import TddaVerif.Props.C03Spec
import TddaVerif.Lemmas.RexpySound
import TddaVerif.Model.RexpySampled
import TddaVerif.Lemmas.RexpySampled

namespace TddaVerif.Props.C13
open TddaVerif.Py TddaVerif.Rexpy TddaVerif.Props.C03

/-- every pattern of a batch extraction matches at least one of the (cleaned) examples -/
theorem each_pattern_has_witness (T : CharTable) (hT : Consistent T) (o : Opts)
    (hsz : 1 ≤ o.sizes.maxStringsInGroup) (cl : Cleaned) (ps : List Pattern) (E : List Char)
    (h : batchExtract T o cl = some (ps, E)) :
    ∀ p ∈ ps, ∃ s ∈ cl.strings, Matches T E (wrapWs (decide (cl.nStripped > 0)) p) s :=
  C03.Lemmas.batch_pattern_has_witness T hT o hsz cl ps E h

/-- there are never more patterns than distinct examples -/
theorem count_le_distinct (T : CharTable) (o : Opts) (cl : Cleaned) (ps : List Pattern) (E : List Char)
    (h : batchExtract T o cl = some (ps, E)) : ps.length ≤ cl.strings.eraseDups.length :=
  C03.Lemmas.batch_count_le T o cl ps E h

/-- an input with no example left after cleaning gives no expression -/
theorem none_for_empty (T : CharTable) (o : Opts) (items : List (Option Line × Nat))
    (h : (clean o.stripOpt o.removeEmpties items).strings = []) : extract T o items = some ([], [], false) :=
  C03.Lemmas.extract_empty T o items h

/-- max_patterns / min_strings_per_pattern only delete patterns -/
theorem pruning_subset (T : CharTable) (o : Opts) (items : List (Option Line × Nat))
    (ps : List Pattern) (E : List Char) (w : Bool) (h : extract T o items = some (ps, E, w))
    (hne : (clean o.stripOpt o.removeEmpties items).strings ≠ []) :
    ∃ qs, batchExtract T o (clean o.stripOpt o.removeEmpties items) = some (qs, E) ∧ ∀ p ∈ ps, p ∈ qs :=
  C03.Lemmas.extract_subset_batch T o items ps E w h hne

/-- under sampling too, every returned pattern matches one of the examples (it was extracted from working examples,
    which are examples) -/
theorem sampled_pattern_has_witness (T : CharTable) (hT : Consistent T) (o : Opts)
    (hsz : 1 ≤ o.sizes.maxStringsInGroup) (cfg : SampleCfg) (pick : Pick) (hp : C03.SampledLemmas.PickOK pick)
    (items : List (Option Line × Nat)) (ps : List Pattern) (E : List Char) (w : Bool)
    (h : extractSampled T o cfg pick items = some (ps, E, w)) :
    ∀ p ∈ ps, ∃ s ∈ (clean o.stripOpt o.removeEmpties items).strings, Matches T E (wrapWs w p) s := by
  open C03.SampledLemmas C03.Lemmas in
  rcases extractSampled_spec hp h with ⟨-, rfl⟩ | ⟨rfl, W, qs, hW, rfl⟩
  · intro p hp'
    cases hp'
  · intro p hpp
    obtain ⟨s, hs, hm⟩ := batchExtractE_witness hT hsz hW.pass p (mem_pruned hpp)
    exact ⟨s, hW.sub s hs, hW.nStripped ▸ hm⟩

/-- … for every Size setting (the code reads the cap as `max(cap, 1)`: see C03 `extract_sound_every_size`) -/
theorem each_pattern_has_witness_every_size (T : CharTable) (hT : Consistent T) (o : Opts) (cl : Cleaned)
    (ps : List Pattern) (E : List Char) (h : batchExtract T o.norm cl = some (ps, E)) :
    ∀ p ∈ ps, ∃ s ∈ cl.strings, Matches T E (wrapWs (decide (cl.nStripped > 0)) p) s :=
  each_pattern_has_witness T hT o.norm (C03.Lemmas.one_le_cap_norm o) cl ps E h

/-- … and under sampling, for every Size setting -/
theorem sampled_pattern_has_witness_every_size (T : CharTable) (hT : Consistent T) (o : Opts)
    (cfg : SampleCfg) (pick : Pick) (hp : C03.SampledLemmas.PickOK pick)
    (items : List (Option Line × Nat)) (ps : List Pattern) (E : List Char) (w : Bool)
    (h : extractSampled T o.norm cfg pick items = some (ps, E, w)) :
    ∀ p ∈ ps, ∃ s ∈ (clean o.stripOpt o.removeEmpties items).strings, Matches T E (wrapWs w p) s :=
  sampled_pattern_has_witness T hT o.norm (C03.Lemmas.one_le_cap_norm o) cfg pick hp items ps E w h

/-- every rendered expression starts with `^` and ends with `$` -/
theorem anchored (E : List Char) (dialect : Nat) (tagged wsWrap : Bool) (p : Pattern) :
    (patternText E dialect tagged wsWrap p).head? = some '^' ∧
    (patternText E dialect tagged wsWrap p).getLast? = some '$' :=
  ⟨rfl, List.getLast?_concat⟩

end TddaVerif.Props.C13
