/-
Python `str` semantics used by the models, over `List Char` (code points).
Structural recursion only, so that everything reduces under `decide`.
-/
namespace TddaVerif.Py

/-- `s.startswith(p)` on the remaining text. -/
def isPrefix : List Char → List Char → Bool
  | [], _ => true
  | _ :: _, [] => false
  | a :: as, b :: bs => a == b && isPrefix as bs

/-- `str.replace(old, new)` for non-empty `old`: leftmost, non-overlapping.
    `skip` counts the characters of a match still to be dropped. -/
def rep (old new : List Char) : Nat → List Char → List Char
  | _, [] => []
  | skip + 1, _ :: cs => rep old new skip cs
  | 0, c :: cs =>
    if isPrefix old (c :: cs) then new ++ rep old new (old.length - 1) cs
    else c :: rep old new 0 cs

def replace (old new s : List Char) : List Char := rep old new 0 s

/-- `sub in s` -/
def contains (s sub : List Char) : Bool :=
  match s with
  | [] => sub.isEmpty
  | c :: cs => isPrefix sub (c :: cs) || contains cs sub

/-- `'X'.join(parts)` with a single-character separator list. -/
def joinSep (sep : List Char) : List (List Char) → List Char
  | [] => []
  | [p] => p
  | p :: ps => p ++ sep ++ joinSep sep ps

end TddaVerif.Py
